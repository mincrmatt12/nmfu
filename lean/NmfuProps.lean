import NmfuProps.TreeRun
import NmfuProps.EquivSound
import NmfuProps.RxSound
import NmfuProps.RtBridge
import NmfuProps.Store
import NmfuProps.DispatchRel
import NmfuProps.C05
import NmfuProps.C05Opt
import NmfuProps.C05Remove
import NmfuProps.C06
import NmfuProps.C06Cond
import NmfuProps.C17
import NmfuProps.C02
import NmfuProps.C10
import NmfuProps.C10Final
import NmfuProps.C03
import NmfuProps.C04
import NmfuProps.C12
import NmfuProps.C12Storage
import NmfuProps.C11
import NmfuProps.C19
import NmfuProps.C19Proj
import NmfuProps.C19Order
import NmfuProps.C15
import NmfuProps.C14
import NmfuProps.C18
import NmfuProps.C20
import NmfuProps.C13
import NmfuProps.C13Lookup
import NmfuProps.C01
import NmfuProps.C16
import NmfuProps.C09
import NmfuProps.C08
import NmfuProps.Examples
