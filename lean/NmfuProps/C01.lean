/-
  C01 / C07 / C08 / C16 — the compiled machine behaves as the reference semantics prescribes.

  `Src.sm p o` is the reference semantics of program `p` (NmfuModel/Src.lean): statements in order,
  matches as Brzozowski derivatives of their patterns (whose correctness against the denotational
  language is proved in RxSound.lean), case / optional / loop / break / try / foreach / if / wait /
  finish / yield as documented, errors to the innermost handler at the offending symbol.
  `M.smS o` is the compiled machine with its start actions in front.  The theorem is the soundness
  of the equivalence certificate at this pair: if `certOK` holds, then on every input (bytes and
  end-of-input) and under every outcome of every data test the machine performs exactly the
  events of the reference — hook calls, appends, assignments, yields, result codes — in the same
  order, at most one input step apart, and the same sequence once both have returned a terminal
  code.  (Certificates that need the error-slack relaxation of NmfuModel/EquivF.lean are reported
  separately and are not covered by this theorem.)
-/
import NmfuModel.Src
import NmfuProps.EquivSound
import NmfuProps.RxSound
namespace Nmfu

theorem C01_machine_refines_reference (p : Prog) (M : Machine) (o : SemOpts)
    (V : List (PS Kont Nat AEv Quest))
    (h : certOK (Src.sm p o) (M.smS o) nSym V = true) (ω : Oracle AEv Quest) (w : List Nat)
    (hw : ∀ x ∈ w, x < nSym) :
    Comparable ((Src.sm p o).events ω w) ((M.smS o).events ω w) ∧
    ((Src.sm p o).finalCfg ω w = none → (M.smS o).finalCfg ω w = none →
      (Src.sm p o).events ω w = (M.smS o).events ω w) ∧
    (∀ x, x < nSym → (Src.sm p o).events ω w <+: (M.smS o).events ω (w ++ [x]) ∧
                     (M.smS o).events ω w <+: (Src.sm p o).events ω (w ++ [x])) :=
  certOK_behaviour h (by decide) ω w hw

/-- C07: the matcher state of the reference is the derivative of the pattern, and derivative
    acceptance is membership in the pattern's language (`Rx.accepts_iff`), a dead derivative means
    no member of the language extends the input (`Rx.dead_iff_no_extension`): so the reference —
    and with the certificate the compiled machine — accepts exactly the language and reports the
    mismatch at exactly the first byte after which no member is reachable. -/
theorem C07_language_exact (r : Rx) (w : List Nat) :
    (r.accepts w = true ↔ Rx.Lang r w) ∧ ((r.derivs w).alive = false ↔ ¬ ∃ v, Rx.Lang r (w ++ v)) :=
  ⟨Rx.accepts_iff r w, Rx.dead_iff_no_extension r w⟩

/-! ### Per-byte actions (`foreach … do { … }`), conditionals included

  The reading the reference gives them, stated outright: in order; an append first asks whether its
  output is full and, if so, hands the byte over to the out-of-space continuation — nothing of the
  append and nothing after it is performed, the byte is not consumed; a conditional asks its
  conditions in order, runs the block of the first that holds and then goes on with what follows it,
  whichever branch was taken (or none). -/

theorem C01_perbyte_nil (c : Src.Ctx) (oos k : STree) (d : Nat) : Src.pcActs c oos d [] k = k := by
  rw [Src.pcActs]

theorem C01_perbyte_append (c : Src.Ctx) (oos k : STree) (d i : Nat) (e : IExpr) (rest : List SAct) :
    Src.pcActs c oos d (.appendC i e :: rest) k
      = .ask (.full i) oos (.emit (.appendC i (subst c.o c.x e)) (Src.pcActs c oos d rest k)) := by
  rw [Src.pcActs]

theorem C01_perbyte_if (c : Src.Ctx) (oos k : STree) (d b : Nat) (e : IExpr) (rest : List SAct) :
    Src.pcActs c oos (d + 1) (.cond [(.expr e, b)] :: rest) k
      = .ask (.cond (subst c.o c.x e))
          (Src.pcActs c oos d (Src.blockActs c.p b) (Src.pcActs c oos (d + 1) rest k))
          (Src.pcActs c oos (d + 1) rest k) := by
  rw [Src.pcActs]
  simp

theorem C01_perbyte_if_else (c : Src.Ctx) (oos k : STree) (d b b' : Nat) (e : IExpr) (rest : List SAct) :
    Src.pcActs c oos (d + 1) (.cond [(.expr e, b), (.else_, b')] :: rest) k
      = .ask (.cond (subst c.o c.x e))
          (Src.pcActs c oos d (Src.blockActs c.p b) (Src.pcActs c oos (d + 1) rest k))
          (Src.pcActs c oos d (Src.blockActs c.p b') (Src.pcActs c oos (d + 1) rest k)) := by
  rw [Src.pcActs]
  simp

end Nmfu
