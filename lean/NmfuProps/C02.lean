/-
  C02 — the parsing result is independent of how the input is chunked.

  `RtCtx.feedL` is `feed` as a fold over the bytes of one chunk (one call-level dispatch of the
  compiled machine per byte, on the typed store); `runAll` is a whole session on a contiguous
  input (re-invoking from the reported cursor after each yield code, stopping at a terminal code);
  `runChunks` is the same session when the input arrives as a list of chunks.  The theorem says
  that for every machine, every store, every list of chunks — any number, any sizes, down to one
  byte per call, empty chunks included — the session ends in the same state struct, with the same
  hook log (each entry carries the outputs visible at the call), the same yield / finish / DONE /
  FAIL codes at the same absolute offsets, and the same number of yields left.

  That the emitted C's `feed` (cursor, `inval` re-read after every advance, return OK at chunk
  end) is this fold is the content of `feedFrom_eq_feedL` below, under the decidable structural
  check `leavesOK` which the harness evaluates on every exported machine; that the compiled
  binary behaves as the model under chunkings is checked by harness/check_C02.py.
-/
import NmfuProps.RtBridge
namespace Nmfu

theorem feedL_append (c : RtCtx) :
    ∀ (c1 c2 : List Nat) (σ : CState) (pos : Nat),
      c.feedL σ (c1 ++ c2) pos =
        match c.feedL σ c1 pos with
        | .exhausted σ1 p1 => c.feedL σ1 c2 p1
        | r => r := by
  intro c1 c2 σ pos
  -- the cases are the equations of `feedL`: no input; the call on the first byte ends in `.next`, `.ret`, `.yielded`
  fun_induction c.feedL σ c1 pos with
  | case1 => rfl
  | case2 σ b rest pos _ s adv hr ih => rw [List.cons_append, RtCtx.feedL, hr]; exact ih
  | case3 σ b rest pos _ code st adv hr | case4 σ b rest pos _ code st adv hr =>
    rw [List.cons_append, RtCtx.feedL, hr]

theorem feedL_pos (c : RtCtx) (inp : List Nat) (σ : CState) (pos : Nat) :
    match c.feedL σ inp pos with
    | .exhausted _ p => p = pos + inp.length
    | .returned _ _ p => pos ≤ p ∧ p ≤ pos + inp.length := by
  fun_induction c.feedL σ inp pos with
  | case1 => rfl
  | case2 σ b rest pos _ s adv _ ih =>
    generalize c.feedL _ rest (pos + 1) = r at ih ⊢
    cases r <;> simp only [List.length_cons] <;> omega
  | case3 | case4 => simp only [List.length_cons]; omega

theorem feedL_exhausted_pos {c : RtCtx} {inp : List Nat} {σ σ' : CState} {pos p : Nat}
    (h : c.feedL σ inp pos = .exhausted σ' p) : p = pos + inp.length := by
  have := feedL_pos c inp σ pos
  rwa [h] at this

theorem feedL_returned_pos {c : RtCtx} {inp : List Nat} {σ σ' : CState} {pos p : Nat} {code : String}
    (h : c.feedL σ inp pos = .returned σ' code p) : pos ≤ p ∧ p ≤ pos + inp.length := by
  have := feedL_pos c inp σ pos
  rwa [h] at this

theorem yield_ne (code s : String) (h : s.length < 6) : "YIELD_" ++ code ≠ s := by
  intro e
  have := congrArg String.length e
  rw [String.length_append, show "YIELD_".length = 6 from rfl] at this
  omega

/-- A code that no call leaf returns and that is too short to be a yield code (`"YIELD_" ++ …`: the 6) is
    returned by no `feedL`: used for OK (C10) and SPIN (C04). -/
theorem feedL_code_ne (c : RtCtx) (X : String) (hX : X.length < 6) {n : Nat}
    (hleaf : ∀ (σ : CState) (b : Nat), b < n → ∀ st adv,
      (c.runTree false (c.M.call c.semOpts σ.state b) σ).2 ≠ .ret X st adv)
    (inp : List Nat) (σ σ' : CState) (pos p : Nat) (hb : ∀ b ∈ inp, b < n) :
    c.feedL σ inp pos ≠ .returned σ' X p := by
  fun_induction c.feedL σ inp pos with
  | case1 => simp
  | case2 σ b rest pos _ s adv _ ih => exact ih fun y hy => hb y (List.mem_cons_of_mem _ hy)
  | case3 σ b rest pos _ code st adv hr =>
    exact fun hc => hleaf σ b (hb b List.mem_cons_self) st adv ((FeedRes.returned.inj hc).2.1 ▸ hr)
  | case4 σ b rest pos _ code st adv hr => exact fun hc => yield_ne _ X hX (FeedRes.returned.inj hc).2.1

theorem runAll_of_exhausted {c : RtCtx} {σ σ' : CState} {inp : List Nat} {off p : Nat}
    (h : c.feedL σ inp off = .exhausted σ' p) (fuel : Nat) : c.runAll fuel σ inp off = ⟨σ', false, fuel⟩ := by
  cases fuel <;> simp [RtCtx.runAll, h]

theorem runAll_of_returned {c : RtCtx} {σ σ' : CState} {inp : List Nat} {off p : Nat} {code : String}
    (h : c.feedL σ inp off = .returned σ' code p) (fuel : Nat) :
    c.runAll fuel σ inp off =
      if isYield code then
        match fuel with
        | 0 => ⟨(σ'.note s!"{code}@{p}").note "yield-fuel", true, 0⟩
        | f + 1 => c.runAll f (σ'.note s!"{code}@{p}") (inp.drop (p - off)) p
      else ⟨σ'.note s!"{code}@{p}", true, fuel⟩ := by
  cases fuel <;> simp [RtCtx.runAll, h]

/-- A session on `c1 ++ c2` is the session on `c1` followed, unless it stopped, by the session on
    `c2` from where the first one ended. -/
theorem runAll_append (c : RtCtx) :
    ∀ (fuel : Nat) (σ : CState) (c1 c2 : List Nat) (off : Nat),
      c.runAll fuel σ (c1 ++ c2) off =
        (if (c.runAll fuel σ c1 off).stopped then c.runAll fuel σ c1 off
         else c.runAll (c.runAll fuel σ c1 off).fuel (c.runAll fuel σ c1 off).σ c2 (off + c1.length)) := by
  intro fuel
  induction fuel using Nat.strongRecOn with | _ fuel ih => ?_
  intro σ c1 c2 off
  have h12 := feedL_append c c1 c2 σ off
  cases h1 : c.feedL σ c1 off with
  | exhausted σ1 p1 =>
    -- the first part is used up: both sides go on with the second part from the same store
    rw [h1] at h12
    cases feedL_exhausted_pos h1
    rw [runAll_of_exhausted h1]
    simp only [Bool.false_eq_true, if_false]
    cases h2 : c.feedL σ1 c2 (off + c1.length) with
    | exhausted σ2 p2 =>
      rw [runAll_of_exhausted (h12.trans h2), runAll_of_exhausted h2]
    | returned σ2 code pos =>
      have hp2 := feedL_returned_pos h2
      rw [runAll_of_returned (h12.trans h2), runAll_of_returned h2,
          show pos - off = c1.length + (pos - (off + c1.length)) by omega, List.drop_length_add_append]
  | returned σ' code pos =>
    -- the call returns inside the first part; after a yield the session goes on with what is left
    -- of it, one unit of fuel less (the induction hypothesis)
    rw [h1] at h12
    have hp := feedL_returned_pos h1
    rw [runAll_of_returned h1, runAll_of_returned h12]
    by_cases hy : isYield code = true
    · cases fuel with
      | zero => simp [hy]
      | succ f =>
        simp only [hy, if_true]
        rw [List.drop_append_of_le_length (by omega), ih f (Nat.lt_succ_self f),
            show pos + (c1.drop (pos - off)).length = off + c1.length by simp [List.length_drop]; omega]
    · simp [hy]

/-- **Chunk independence.**  However the input is split into feed calls, the session is the one on
    the concatenated input. -/
theorem C02_chunk_independent (c : RtCtx) :
    ∀ (cs : List (List Nat)) (fuel : Nat) (σ : CState) (off : Nat),
      c.runChunks fuel σ cs off = c.runAll fuel σ cs.flatten off := by
  intro cs
  induction cs with
  | nil =>
    intro fuel σ off
    simp only [RtCtx.runChunks, List.flatten_nil]
    rw [runAll_of_exhausted (σ' := σ) (p := off) rfl]
  | cons ch rest ih =>
    intro fuel σ off
    simp only [RtCtx.runChunks, List.flatten_cons]
    rw [runAll_append]
    split
    · rfl
    · exact ih _ _ _

/-! ### The cursor-level `feed` is the fold -/

def LeafOK : MLeaf → Prop
  | .next _ adv => adv = 1
  | .ret _ _ adv => adv ≤ 1
  | .yielded _ _ adv => adv ≤ 1

/-- Every dispatch the run meets ends in a well-formed leaf (implied by `Machine.leavesOK`, which
    the harness evaluates on each exported machine).  (`nSym` = 257, here and in every hypothesis on
    the bytes of a chunk: the per-machine checks sweep `List.range nSym`, so 256 would gain nothing.) -/
def RtCtx.StepsOK (c : RtCtx) : Prop :=
  ∀ (σ : CState) (b : Nat), b < nSym → LeafOK (c.runTree false (c.M.call c.semOpts σ.state b) σ).2

def FeedRes.toTriple : FeedRes → CState × String × Nat
  | .exhausted σ p => (σ, "OK", p)
  | .returned σ code p => (σ, code, p)

/-- `RtCtx.feedFrom` — the mirror of the emitted loop: explicit cursor, `inval` loaded at entry
    and after every advance, `return OK` when the cursor reaches the end of the chunk — computes
    the fold `feedL`, for every machine whose leaves are well formed. -/
theorem feedFrom_eq_feedL (c : RtCtx) (hok : c.StepsOK) :
    ∀ (rest : List Nat) (σ : CState) (pos fuel : Nat), rest ≠ [] → rest.length < fuel →
      (∀ b ∈ rest, b < nSym) →
      c.feedFrom fuel σ rest pos = (c.feedL σ rest pos).toTriple := by
  intro rest
  induction rest with
  | nil => intro σ pos fuel h; exact absurd rfl h
  | cons b rest' ih =>
    intro σ pos fuel _ hf hb
    obtain ⟨fuel, rfl⟩ := Nat.exists_eq_add_one_of_ne_zero (Nat.ne_zero_of_lt hf)
    obtain ⟨hb0, hbr⟩ := List.forall_mem_cons.mp hb
    have hl := hok σ b hb0
    rw [RtCtx.feedFrom, RtCtx.feedL]
    generalize c.runTree false (c.M.call c.semOpts σ.state b) σ = r at hl
    obtain ⟨σ', l⟩ := r
    cases l with
    | next s adv =>
      -- the cursor advances by one: the loop goes on with `rest'`, or stops with OK at its end
      cases (hl : adv = 1)
      cases rest' with
      | nil => rfl
      | cons b' rest'' =>
        exact ih _ _ _ (List.cons_ne_nil _ _) (Nat.lt_of_succ_lt_succ hf) hbr
    | ret code st adv | yielded code st adv => simp [FeedRes.toTriple, Nat.min_eq_left (hl : adv ≤ 1)]

/-- What `leavesOK` says of the leaf of any concrete call, the `default:` case included. -/
theorem leaf_of_leavesOK (c : RtCtx) (h : c.M.leavesOK c.semOpts = true) (σ : CState) (b : Nat)
    (hb : b < nSym) :
    LeafOK (c.runTree false (c.M.call c.semOpts σ.state b) σ).2 ∧
    ∀ st adv, (c.runTree false (c.M.call c.semOpts σ.state b) σ).2 ≠ .ret "OK" st adv := by
  simp only [Machine.leavesOK, List.all_eq_true, List.mem_range] at h
  refine c.call_leaf b (P := fun _ l => LeafOK l ∧ ∀ st adv, l ≠ .ret "OK" st adv)
    (fun s hs p hp => ?_) (fun s _ => ⟨Nat.zero_le 1, by simp⟩) σ
  have := h s hs b hb p hp
  generalize p.2 = l at this ⊢
  cases l with
  | next st adv => exact ⟨by simp only [Bool.and_eq_true, beq_iff_eq] at this; exact this.1, by simp⟩
  | yielded code st adv => exact ⟨by simpa [LeafOK] using this, by simp⟩
  | ret code st adv =>
    simp only [Bool.and_eq_true, bne_iff_ne, ne_eq, decide_eq_true_eq] at this
    exact ⟨this.2, fun st' adv' e => this.1 (by cases e; rfl)⟩

theorem stepsOK_of_leavesOK (c : RtCtx) (h : c.M.leavesOK c.semOpts = true) : c.StepsOK :=
  fun σ b hb => (leaf_of_leavesOK c h σ b hb).1

end Nmfu
