/-
  C03 — generated parsers are memory-safe and respect output capacities (model level).

  For every machine whose call trees pass the decidable check `guardedB` (every append is the
  not-full branch of its own out-of-space test, every string constant fits its output — what the
  code generator's templates and its compile-time length check are there to ensure; the harness
  evaluates it on every exported machine), every store satisfying the invariant `Inv`, every
  input and every chunking:
  * no memory fault occurs: no write through a NULL or freed buffer, no write outside a buffer,
    no double free (`C03_no_memory_fault`);
  * every length counter stays within the capacity of its output — N-1 for a terminated string of
    declared size N, N for an unterminated one, sizeof for a raw output
    (`C03_counters_within_capacity`);
  in each of the storage modes (in struct, heap, heap on demand, freed on delete).

  How: where a guarded tree can reach it, every buffer event is an update of one buffer by a pure
  function (`σ.updStr i f`, Store.lean; here `storeByte_alloc`, `apply_setStr_eq`, `apply_delete_eq`), so the
  invariant is checked on those functions (`bufP_*B`); `guarded_run_induction` carries it down a
  guarded tree (C12Storage runs its refinement through the same normal forms and induction).
  `start()` establishes the invariant (`C03_start_establishes_inv`).
-/
import NmfuProps.Store
import NmfuProps.C02
namespace Nmfu

/-- What the invariant says about one buffer.  The third conjunct: a NULL buffer occurs only where the emitted
    code allocates on demand (`RtCtx.realloc`: the `if (!p) p = malloc(..)` in front of every write). -/
def BufP (c : RtCtx) (i : Nat) (b : StrBuf) : Prop :=
  b.counter ≤ (c.ty i).cap ∧
  (b.writable = true → b.bytes.size = (c.ty i).size) ∧
  (b.alloc = .null → c.realloc i = true) ∧
  b.alloc ≠ .freed ∧
  (b.alloc = .null → b.counter = 0)

/-- Declared sizes leave room for the terminator. -/
def RtCtx.SizesOK (c : RtCtx) : Prop :=
  ∀ i, (c.ty i).cap ≤ (c.ty i).size ∧ ((c.ty i).nullTerm = true → (c.ty i).cap < (c.ty i).size)

def Inv (c : RtCtx) (σ : CState) : Prop :=
  σ.memFault = false ∧ ∀ i, BufP c i (σ.str i)

theorem BufP.counter_le {c : RtCtx} {i : Nat} {b : StrBuf} (h : BufP c i b) : b.counter ≤ (c.ty i).cap := h.1

theorem BufP.size_eq {c : RtCtx} {i : Nat} {b : StrBuf} (h : BufP c i b) (hw : b.writable = true) :
    b.bytes.size = (c.ty i).size := h.2.1 hw

theorem BufP.realloc {c : RtCtx} {i : Nat} {b : StrBuf} (h : BufP c i b) (hn : b.alloc = .null) :
    c.realloc i = true := h.2.2.1 hn

theorem BufP.not_freed {c : RtCtx} {i : Nat} {b : StrBuf} (h : BufP c i b) : b.alloc ≠ .freed := h.2.2.2.1

theorem BufP.counter_null {c : RtCtx} {i : Nat} {b : StrBuf} (h : BufP c i b) (hn : b.alloc = .null) :
    b.counter = 0 := h.2.2.2.2 hn

theorem writable_iff (b : StrBuf) : b.writable = true ↔ b.alloc ≠ .null ∧ b.alloc ≠ .freed := by
  unfold StrBuf.writable; cases b.alloc <;> simp

theorem BufP.writable {c : RtCtx} {i : Nat} {b : StrBuf} (h : BufP c i b) (hn : b.alloc ≠ .null) :
    b.writable = true := (writable_iff b).2 ⟨hn, h.not_freed⟩

theorem BufP.update {c : RtCtx} {i : Nat} {b b' : StrBuf} (h : BufP c i b) (ha : b'.alloc = b.alloc)
    (hsz : b'.bytes.size = b.bytes.size) (hn : b'.counter ≤ (c.ty i).cap) (h0 : b.alloc = .null → b'.counter = 0) :
    BufP c i b' := by
  unfold BufP StrBuf.writable
  rw [ha, hsz]
  exact ⟨hn, h.2.1, h.2.2.1, h.2.2.2.1, h0⟩

theorem inv_updStr (c : RtCtx) (σ : CState) (i : Nat) (f : StrBuf → StrBuf)
    (h : Inv c σ) (hb : BufP c i (f (σ.str i))) : Inv c (σ.updStr i f) := by
  refine ⟨h.1, fun j => ?_⟩
  rw [str_updStr]
  split
  · next hj => rw [hj.1]; exact hb
  · exact h.2 j

theorem inv_addFault (c : RtCtx) (σ : CState) (m : String) (h : Inv c σ) : Inv c (σ.addFault m) :=
  ⟨by rw [addFault_memFault]; exact h.1, fun j => by rw [addFault_str]; exact h.2 j⟩

theorem Inv.congr {c : RtCtx} {σ σ' : CState} (h : Inv c σ) (hm : σ'.memFault = σ.memFault)
    (hs : σ'.strs = σ.strs) : Inv c σ' := by
  unfold Inv CState.str
  rw [hm, hs]; exact h

theorem inv_state {c : RtCtx} {σ : CState} (s : Int) (h : Inv c σ) : Inv c { σ with state := s } :=
  h.congr rfl rfl

theorem inv_note {c : RtCtx} {σ : CState} (m : String) (h : Inv c σ) : Inv c (σ.note m) :=
  h.congr rfl rfl

/-- a buffer with room for a byte is one of the store's own (the default buffer has no room) -/
theorem lt_size_of_pos {c : RtCtx} {σ : CState} {i : Nat} (hb : BufP c i (σ.str i))
    (hpos : 0 < (c.ty i).size) : i < σ.strs.size := by
  refine Decidable.byContradiction fun hge => ?_
  rw [str_default_of_ge σ i hge] at hb
  exact Nat.ne_of_lt hpos (hb.size_eq rfl)

/-! ### The pure buffer operations keep the buffer invariant -/

theorem bufP_allocB {c : RtCtx} {i : Nat} {b : StrBuf} (h : BufP c i b) :
    BufP c i (allocB c i b) ∧ (allocB c i b).writable = true ∧ (allocB c i b).counter = b.counter := by
  unfold allocB
  by_cases hn : b.alloc = .null
  · rw [if_pos (by simp [h.realloc hn, hn])]
    exact ⟨⟨h.counter_le, fun _ => by simp, nofun, nofun, nofun⟩, rfl, rfl⟩
  · rw [if_neg (by simp [hn])]
    exact ⟨h, h.writable hn, rfl⟩

theorem bufP_storeB {c : RtCtx} {i : Nat} {b : StrBuf} (h : BufP c i b) (hw : b.writable = true)
    (hroom : b.counter < (c.ty i).cap) (nt : Bool) (v : Nat) : BufP c i (storeB nt v b) := by
  have hnn : b.alloc = .null → b.counter + 1 = 0 := fun hn => absurd hn ((writable_iff b).1 hw).1
  cases nt <;> exact h.update rfl (storeB_size _ v b) hroom hnn

theorem bufP_setB {c : RtCtx} {i : Nat} {b : StrBuf} (h : BufP c i b) (hw : b.writable = true)
    (nt : Bool) (bs : List Nat) (hfit : bs.length ≤ (c.ty i).cap) : BufP c i (setB nt bs b) := by
  have hnn : b.alloc = .null → bs.length = 0 := fun hn => absurd hn ((writable_iff b).1 hw).1
  cases nt <;> exact h.update rfl (setB_size _ bs b) hfit hnn

theorem bufP_deleteB {c : RtCtx} {i : Nat} {b : StrBuf} (h : BufP c i b) (isStart : Bool) :
    BufP c i (deleteB c isStart i b) := by
  unfold deleteB
  split
  · next hc =>
    simp only [Bool.and_eq_true] at hc
    exact ⟨Nat.zero_le _, fun hw => by simp [StrBuf.writable] at hw,
      fun _ => by simp [RtCtx.realloc, hc.1.1.1, hc.1.1.2, hc.2], by simp, fun _ => rfl⟩
  · split
    · exact h.update rfl (writeB_size 0 0 b) (Nat.zero_le _) (fun _ => rfl)
    · exact h.update rfl rfl (Nat.zero_le _) (fun _ => rfl)

/-! ### Under the invariant, an event updates one buffer -/

theorem inv_onDemandAlloc (c : RtCtx) (σ : CState) (i : Nat) (h : Inv c σ) : Inv c (c.onDemandAlloc σ i) := by
  rw [onDemandAlloc_updStr]; exact inv_updStr c σ i _ h (bufP_allocB (h.2 i)).1

theorem writeByte_of_updStr (c : RtCtx) (σ : CState) (i : Nat) (f : StrBuf → StrBuf) (k v : Nat)
    (hb : BufP c i (σ.str i)) (hw : (f (σ.str i)).writable = true)
    (hsz : (f (σ.str i)).bytes.size = (c.ty i).size) (hk : k < (c.ty i).size) :
    c.writeByte (σ.updStr i f) i k v = σ.updStr i (fun b => writeB k v (f b)) := by
  have hs := str_updStr_self σ i f (lt_size_of_pos hb (by omega))
  rw [writeByte_updStr c _ i k v (by rw [hs]; exact hw) (by rw [hs, hsz]; exact hk), updStr_updStr]

theorem storeByte_alloc (c : RtCtx) (hs : c.SizesOK) (σ : CState) (i v : Nat) (hb : BufP c i (σ.str i))
    (hroom : (σ.str i).counter < (c.ty i).cap) :
    c.storeByte (c.onDemandAlloc σ i) i v
      = σ.updStr i (fun b => storeB (c.ty i).nullTerm v (allocB c i b)) := by
  have hcap := hs i
  obtain ⟨hb1, hw1, hc1⟩ := bufP_allocB hb
  have hsz := hb1.size_eq hw1
  unfold RtCtx.storeByte
  rw [onDemandAlloc_updStr]
  simp only [str_updStr_self σ i _ (lt_size_of_pos hb (by omega))]
  rw [writeByte_of_updStr c σ i _ _ v hb hw1 hsz (by omega), setCounter_updStr, updStr_updStr]
  cases hnt : (c.ty i).nullTerm
  · rw [if_neg Bool.false_ne_true]; exact updStr_congr σ i rfl
  · have hlt := hcap.2 hnt
    -- (`by exact`: the update function in the expected types is known only once `rw` has unified the left side)
    rw [if_pos rfl, writeByte_of_updStr c σ i _ _ 0 hb (by exact hw1) (by exact (writeB_size ..).trans hsz) (by omega)]
    exact updStr_congr σ i rfl

theorem foldl_write_of_updStr (c : RtCtx) (i : Nat) (val : Nat → Nat) (σ : CState) (hb : BufP c i (σ.str i)) :
    ∀ (ks : List Nat) (f : StrBuf → StrBuf), (f (σ.str i)).writable = true →
      (f (σ.str i)).bytes.size = (c.ty i).size → (∀ k ∈ ks, k < (c.ty i).size) →
      ks.foldl (fun σ k => c.writeByte σ i k (val k)) (σ.updStr i f) = σ.updStr i (fun b => fillB val ks (f b)) := by
  intro ks
  induction ks with
  | nil => intro f _ _ _; rfl
  | cons k rest ih =>
    intro f hw hsz hk
    obtain ⟨hk0, hkr⟩ := List.forall_mem_cons.mp hk
    rw [List.foldl_cons, writeByte_of_updStr c σ i f k (val k) hb hw hsz hk0,
      ih _ (by exact hw) (by exact (writeB_size ..).trans hsz) hkr]
    rfl

theorem apply_setStr_eq (c : RtCtx) (hs : c.SizesOK) (σ : CState) (isStart : Bool) (i : Nat) (bs : List Nat)
    (hb : BufP c i (σ.str i)) (hfit : bs.length ≤ (c.ty i).cap) :
    c.apply σ isStart (.setStr i bs) = σ.updStr i (fun b => setB (c.ty i).nullTerm bs (allocB c i b)) := by
  obtain ⟨hb1, hw1, _⟩ := bufP_allocB hb
  have hsz1 := hb1.size_eq hw1
  have hcap := hs i
  simp only [RtCtx.apply, RtCtx.setStrAlloc, onDemandAlloc_updStr,
    foldl_write_of_updStr c i _ σ hb (List.range bs.length) _ hw1 hsz1 (fun k hk => by have := List.mem_range.1 hk; omega)]
  rw [setCounter_updStr]
  cases hnt : (c.ty i).nullTerm
  · rw [if_neg (by simp), updStr_updStr]; rfl
  · have hlt := hcap.2 hnt
    rw [if_pos rfl, writeByte_of_updStr c σ i _ _ 0 hb (by exact hw1)
      ((fillB_size _ _ (allocB c i (σ.str i))).trans hsz1) (by omega), updStr_updStr]
    rfl

theorem apply_delete_eq (c : RtCtx) (hs : c.SizesOK) (σ : CState) (isStart : Bool) (i : Nat)
    (hb : BufP c i (σ.str i)) :
    c.apply σ isStart (.delete i) = σ.updStr i (deleteB c isStart i) := by
  show _ = σ.setStr i (deleteB c isStart i (σ.str i))
  simp only [RtCtx.apply, deleteB, apply_ite (σ.setStr i)]
  refine ite_congr rfl (fun _ => ?_) fun _ => ?_
  · rw [if_neg (by simpa using hb.not_freed)]
  · by_cases hwr : ((c.ty i).nullTerm && !(c.ro.onDemand && c.isDyn i && (σ.str i).alloc == .null)) = true
    · rw [if_pos hwr, if_pos hwr]
      simp only [Bool.and_eq_true, Bool.not_eq_true'] at hwr
      -- a buffer that `delete` does not skip exists
      have hw : (σ.str i).writable = true := hb.writable fun hn => by
        have hre := hb.realloc hn
        simp only [RtCtx.realloc, Bool.and_eq_true] at hre
        simp [hre.1.1, hre.2, hn] at hwr
      have hlt := (hs i).2 hwr.1
      rw [writeByte_updStr c σ i 0 0 hw (by rw [hb.size_eq hw]; omega)]
      exact updStr_updStr σ i (writeB 0 0) (counterB 0)
    · rw [if_neg hwr, if_neg hwr]; rfl

/-! ### Events keep the invariant -/

/-- What a guarded tree guarantees of the store on which an event is performed: room for an
    appended byte (the event is the not-full branch of its own out-of-space test), a string
    constant that fits. -/
def evGuard (c : RtCtx) (σ : CState) : AEv → Prop
  | .append i _ => (σ.str i).counter < (c.ty i).cap
  | .appendC i _ => (σ.str i).counter < (c.ty i).cap
  | .setStr i bs => bs.length ≤ (c.ty i).cap
  | _ => True

theorem inv_storeByte_alloc (c : RtCtx) (hs : c.SizesOK) (σ : CState) (i v : Nat) (h : Inv c σ)
    (hroom : (σ.str i).counter < (c.ty i).cap) : Inv c (c.storeByte (c.onDemandAlloc σ i) i v) := by
  obtain ⟨hb1, hw1, hc1⟩ := bufP_allocB (h.2 i)
  rw [storeByte_alloc c hs σ i v (h.2 i) hroom]
  exact inv_updStr c σ i _ h (bufP_storeB hb1 hw1 (by rw [hc1]; exact hroom) _ v)

theorem inv_apply (c : RtCtx) (hs : c.SizesOK) (σ : CState) (isStart : Bool) (a : AEv) (h : Inv c σ)
    (hg : evGuard c σ a) : Inv c (c.apply σ isStart a) := by
  cases a with
  | append i byte => exact inv_storeByte_alloc c hs σ i _ h hg
  | appendC i e =>
    rw [apply_appendC]
    split
    · exact inv_addFault c _ _ (inv_onDemandAlloc c σ i h)
    · exact inv_storeByte_alloc c hs σ i _ h hg
  | setStr i bs =>
    obtain ⟨hb1, hw1, _⟩ := bufP_allocB (h.2 i)
    rw [apply_setStr_eq c hs σ isStart i bs (h.2 i) hg]
    exact inv_updStr c σ i _ h (bufP_setB hb1 hw1 _ bs hg)
  | delete i =>
    rw [apply_delete_eq c hs σ isStart i (h.2 i)]
    exact inv_updStr c σ i _ h (bufP_deleteB (h.2 i) isStart)
  | set i e =>
    simp only [RtCtx.apply]
    split
    · exact inv_addFault c σ _ h
    · exact h.congr rfl rfl
  | _ => exact h

theorem inv_asked (c : RtCtx) (σ : CState) (isStart : Bool) (q : Quest) (v : Bool) (h : Inv c σ) :
    Inv c (c.applyEv isStart σ (.asked q v)) := by
  cases q with
  | full i => exact h
  | cond e =>
    simp only [RtCtx.applyEv]
    split
    · exact inv_addFault c σ _ h
    · exact h

theorem room_of_not_full (c : RtCtx) (σ : CState) (i : Nat) (h : Inv c σ)
    (hq : (c.answer σ (.full i) == some true) = false) : (σ.str i).counter < (c.ty i).cap :=
  Nat.lt_of_le_of_ne (h.2 i).counter_le fun heq => by simp [RtCtx.answer, heq] at hq

/-- **Induction over the run of a guarded tree** from a store satisfying the invariant.  What
    `guardedB` is for: on the way down every store satisfies the invariant and every event meets
    its guard (`evGuard`) — an append is only reached through the not-full answer of the
    out-of-space test in front of it. -/
theorem guarded_run_induction (c : RtCtx) (hs : c.SizesOK) (isStart : Bool) {motive : CTree → CState → Prop}
    (leaf : ∀ l σ, Inv c σ → motive (.leaf l) σ)
    (emit : ∀ a k σ, Inv c σ → evGuard c σ a → motive k (c.apply σ isStart a) → motive (.emit a k) σ)
    (ask : ∀ q kt kf σ v, Inv c σ → (c.answer σ q == some true) = v →
      motive (if v then kt else kf) (c.applyEv isStart σ (.asked q v)) → motive (.ask q kt kf) σ)
    (t : CTree) : ∀ σ, guardedB c t = true → Inv c σ → motive t σ := by
  suffices ∀ t, guardedB c t = true → ∀ σ, Inv c σ → motive t σ from fun σ hg h => this t hg σ h
  have em : ∀ a k σ, evGuard c σ a → (∀ σ, Inv c σ → motive k σ) → Inv c σ → motive (.emit a k) σ :=
    fun a k σ hg ihk h => emit a k σ h hg (ihk _ (inv_apply c hs σ isStart a h hg))
  -- a question: the no-branch may use that the answer was no
  have qu : ∀ q kt kf σ, Inv c σ → (∀ σ, Inv c σ → motive kt σ) →
      ((c.answer σ q == some true) = false → motive kf (c.applyEv isStart σ (.asked q false))) →
      motive (.ask q kt kf) σ := by
    intro q kt kf σ h ihkt ihkf
    cases hv : (c.answer σ q == some true)
    · exact ask q kt kf σ false h hv (ihkf hv)
    · exact ask q kt kf σ true h hv (ihkt _ (inv_asked c σ isStart q true h))
  intro t
  -- the eight cases are the eight equations of `guardedB`, in their order
  fun_induction guardedB c t with
  | case1 i kt j _ k ihkt ihk | case2 i kt j _ k ihkt ihk =>
    intro hg σ h
    simp only [Bool.and_eq_true, beq_iff_eq] at hg
    obtain ⟨⟨rfl, hgt⟩, hgk⟩ := hg
    exact qu _ kt _ σ h (ihkt hgt) fun hv => em _ k σ (room_of_not_full c σ i h hv) (ihk hgk) h
  | case3 q kt kf _ _ ihkt ihkf =>
    intro hg σ h
    simp only [Bool.and_eq_true] at hg
    exact qu q kt kf σ h (ihkt hg.1) fun _ => ihkf hg.2 _ (inv_asked c σ isStart q false h)
  | case4 | case5 => exact nofun
  | case6 i bs k ihk =>
    intro hg σ
    simp only [Bool.and_eq_true, decide_eq_true_eq] at hg
    exact em _ k σ hg.1 (ihk hg.2)
  | case7 a k h1 h2 h3 ihk =>
    intro hg σ
    refine em a k σ ?_ (ihk hg)
    cases a with
    | append i b => exact absurd rfl (h1 i b)
    | appendC i e => exact absurd rfl (h2 i e)
    | setStr i bs => exact absurd rfl (h3 i bs)
    | _ => trivial
  | case8 l => exact fun _ σ h => leaf l σ h

theorem runTree_inv (c : RtCtx) (hs : c.SizesOK) (isStart : Bool) (t : CTree) :
    ∀ σ, guardedB c t = true → Inv c σ → Inv c (c.runTree isStart t σ).1 := by
  refine guarded_run_induction c hs isStart (motive := fun t σ => Inv c (c.runTree isStart t σ).1)
    (fun _ _ h => h) (fun _ _ _ _ _ ih => ih) (fun q kt kf σ v _ hv ih => ?_) t
  rw [runTree_ask c isStart q kt kf σ v hv]; exact ih

/-! ### From the per-machine check to every call -/

/-- Every call-level tree of the machine is guarded (for symbols below 257). -/
def RtCtx.CallsGuarded (c : RtCtx) : Prop :=
  ∀ (s : Int) (x : Nat), x < nSym → guardedB c (c.M.call c.semOpts s x) = true

theorem callsGuarded_of_safeCheck (c : RtCtx) (h : c.safeCheck = true) : c.CallsGuarded := by
  intro s x hx
  simp only [RtCtx.safeCheck, Bool.and_eq_true, List.all_eq_true, List.mem_range] at h
  exact c.M.call_cases c.semOpts x (P := fun _ t => guardedB c t = true)
    (fun n hn => h.1.2 n hn x hx) (fun _ _ => rfl) s

theorem startGuarded_of_safeCheck (c : RtCtx) (h : c.safeCheck = true) : guardedB c c.startTree = true := by
  simp only [RtCtx.safeCheck, Bool.and_eq_true] at h
  exact h.2

theorem out_of_safeCheck (c : RtCtx) (h : c.safeCheck = true) (i : Nat) (hi : i < c.M.outs.size) :
    (c.ty i).cap ≤ (c.ty i).size ∧ ((c.ty i).nullTerm = true → (c.ty i).cap < (c.ty i).size) ∧
    (∀ bs, (c.M.outs.getD i default).defStr = some bs → bs.length ≤ (c.ty i).cap) ∧
    ((c.ty i).isBuf = true → (c.M.outs.getD i default).defInt = none) := by
  simp only [RtCtx.safeCheck, Bool.and_eq_true, List.all_eq_true, List.mem_range] at h
  have := h.1.1 i hi
  -- `!a || b` read as `a = true → b`
  simp only [decide_eq_true_eq, Bool.or_eq_true, Bool.not_eq_true', ← Bool.not_eq_true,
    ← Decidable.imp_iff_not_or, Option.isNone_iff_eq_none] at this
  refine ⟨this.1.1.1, this.1.1.2, fun bs hd => ?_, this.2⟩
  have := this.1.2
  rw [hd] at this
  exact of_decide_eq_true this

/-- an index past the declarations is no buffer -/
theorem ty_of_ge (c : RtCtx) (i : Nat) (hi : ¬ i < c.M.outs.size) : c.ty i = OutTy.bool := by
  simp [RtCtx.ty, Array.getD_eq_getD_getElem?, Array.getElem?_eq_none (by omega : c.M.outs.size ≤ i)]
  rfl

theorem sizesOK_of_safeCheck (c : RtCtx) (h : c.safeCheck = true) : c.SizesOK := by
  intro i
  by_cases hi : i < c.M.outs.size
  · exact ⟨(out_of_safeCheck c h i hi).1, (out_of_safeCheck c h i hi).2.1⟩
  · rw [ty_of_ge c i hi]
    exact ⟨Nat.le_refl _, nofun⟩

theorem feedL_inv (c : RtCtx) (hs : c.SizesOK) (hg : c.CallsGuarded) (σ : CState) (inp : List Nat) (pos : Nat)
    (hb : ∀ b ∈ inp, b < nSym) (h : Inv c σ) : Inv c (c.feedL σ inp pos).toTriple.1 := by
  induction inp generalizing σ pos with
  | nil => exact h
  | cons b rest ih =>
    obtain ⟨hb0, hbr⟩ := List.forall_mem_cons.mp hb
    have h1 := runTree_inv c hs false _ σ (hg σ.state b hb0) h
    simp only [RtCtx.feedL]
    split
    · exact ih _ _ hbr (inv_state _ h1)
    · exact inv_state _ h1
    · exact inv_state _ h1

theorem runAll_inv (c : RtCtx) (hs : c.SizesOK) (hg : c.CallsGuarded) :
    ∀ (fuel : Nat) (σ : CState) (inp : List Nat) (off : Nat), (∀ b ∈ inp, b < nSym) → Inv c σ →
      Inv c (c.runAll fuel σ inp off).σ := by
  intro fuel
  induction fuel using Nat.strongRecOn with | _ fuel ih => ?_
  intro σ inp off hb h
  have := feedL_inv c hs hg σ inp off hb h
  cases heq : c.feedL σ inp off with
  | exhausted σ' p =>
    rw [runAll_of_exhausted heq]
    rwa [heq] at this
  | returned σ' code p =>
    rw [heq] at this
    rw [runAll_of_returned heq]
    split
    · cases fuel with
      | zero => exact inv_note _ (inv_note _ this)
      | succ f =>
        exact ih f (Nat.lt_succ_self f) _ _ _ (fun y hy => hb y (List.mem_of_mem_drop hy)) (inv_note _ this)
    · exact inv_note _ this

theorem endCall_inv (c : RtCtx) (hs : c.SizesOK) (hg : c.CallsGuarded) (σ : CState) (h : Inv c σ) :
    Inv c (c.endCall σ).1 := by
  have h1 := runTree_inv c hs false _ σ (hg σ.state symEnd (by decide)) h
  simp only [RtCtx.endCall]
  split <;> exact inv_state _ h1

theorem runChunks_inv (c : RtCtx) (hs : c.SizesOK) (hg : c.CallsGuarded)
    (cs : List (List Nat)) (fuel : Nat) (σ : CState) (off : Nat)
    (hb : ∀ ch ∈ cs, ∀ b ∈ ch, b < nSym) (h : Inv c σ) : Inv c (c.runChunks fuel σ cs off).σ := by
  rw [C02_chunk_independent]
  exact runAll_inv c hs hg fuel σ _ off (List.forall_mem_flatten.mpr hb) h

/-- **No memory fault.**  For a machine passing `safeCheck`, from any store satisfying the
    invariant, on every input under every chunking (yields re-invoked): no write goes through a
    NULL or freed buffer or outside a buffer, and nothing is freed twice. -/
theorem C03_no_memory_fault (c : RtCtx) (hsafe : c.safeCheck = true)
    (cs : List (List Nat)) (fuel : Nat) (σ : CState) (off : Nat)
    (hb : ∀ ch ∈ cs, ∀ b ∈ ch, b < nSym) (h : Inv c σ) :
    (c.runChunks fuel σ cs off).σ.memFault = false :=
  (runChunks_inv c (sizesOK_of_safeCheck c hsafe) (callsGuarded_of_safeCheck c hsafe) cs fuel σ off hb h).1

/-- **Counters stay within capacity** (and buffers keep their declared size), same quantifiers. -/
theorem C03_counters_within_capacity (c : RtCtx) (hsafe : c.safeCheck = true)
    (cs : List (List Nat)) (fuel : Nat) (σ : CState) (off : Nat)
    (hb : ∀ ch ∈ cs, ∀ b ∈ ch, b < nSym) (h : Inv c σ) (i : Nat) :
    ((c.runChunks fuel σ cs off).σ.str i).counter ≤ (c.ty i).cap :=
  ((runChunks_inv c (sizesOK_of_safeCheck c hsafe) (callsGuarded_of_safeCheck c hsafe) cs fuel σ off hb h).2 i).1

/-- `end()` keeps the invariant as well. -/
theorem C03_end_safe (c : RtCtx) (hsafe : c.safeCheck = true) (σ : CState) (h : Inv c σ) :
    Inv c (c.endCall σ).1 :=
  endCall_inv c (sizesOK_of_safeCheck c hsafe) (callsGuarded_of_safeCheck c hsafe) σ h

/-! ### `start()` establishes the invariant -/

theorem bufP_default (c : RtCtx) (i : Nat) (h0 : (c.ty i).size = 0) : BufP c i default :=
  ⟨Nat.zero_le _, fun _ => h0.symm, nofun, nofun, nofun⟩

/-- Where `start()` puts a buffer satisfies the buffer invariant, with counter 0; an output with a
    default string has a buffer there. -/
theorem bufP_baseBuf (c : RtCtx) (σ0 : CState) (i : Nat)
    (hdi : (c.M.outs.getD i default).defInt = none) :
    BufP c i (c.baseBuf σ0 i) ∧ (c.baseBuf σ0 i).counter = 0 ∧
    ∀ bs, (c.M.outs.getD i default).defStr = some bs → (c.baseBuf σ0 i).alloc ≠ .null := by
  have fresh : ∀ bytes a, a ≠ .freed → (a ≠ .null → bytes.size = (c.ty i).size) →
      (a = .null → c.realloc i = true) → BufP c i ⟨bytes, 0, a⟩ :=
    fun _ _ hf hsz hre => ⟨Nat.zero_le _, fun hw => hsz ((writable_iff _).1 hw).1, hre, hf, fun _ => rfl⟩
  unfold RtCtx.baseBuf
  simp only []
  by_cases hdyn : c.isDyn i = true
  · rw [if_pos hdyn]
    cases hd : (c.M.outs.getD i default).defStr with
    | some bs =>
      rw [if_pos (by rfl)]
      exact ⟨fresh _ _ nofun (fun _ => Array.size_replicate) nofun, rfl, fun _ _ => nofun⟩
    | none =>
      rw [if_neg (by simp)]
      by_cases hod : c.ro.onDemand = true
      · rw [if_pos hod]
        refine ⟨fresh _ _ nofun (fun h => absurd rfl h) fun _ => ?_, rfl, nofun⟩
        simp only [RtCtx.realloc, hod, hdyn, RtCtx.hasDefault, hd, hdi, Option.isSome_none, Bool.or_self,
          Bool.not_false, Bool.true_or, Bool.and_self]
      · rw [if_neg hod]
        exact ⟨fresh _ _ nofun (fun _ => Array.size_replicate) nofun, rfl, nofun⟩
  · rw [if_neg hdyn]
    refine ⟨fresh _ _ nofun (fun _ => ?_) nofun, rfl, fun _ _ => nofun⟩
    split
    · assumption
    · exact Array.size_replicate

/-- The buffer `start()` leaves for a string / raw output satisfies the buffer invariant and holds the
    default `bs` (if any) below its counter. -/
theorem initBuf_fields (c : RtCtx) (h : c.safeCheck = true) (σ0 : CState) (i : Nat) (hi : i < c.M.outs.size)
    (hbuf : (c.ty i).isBuf = true) (bs : List Nat) (hbs : bs = ((c.M.outs.getD i default).defStr).getD []) :
    BufP c i (c.initBuf σ0 i) ∧ (c.initBuf σ0 i).counter = bs.length ∧
    ∀ k, k < bs.length → (c.initBuf σ0 i).bytes.getD k none = some (bs.getD k 0) := by
  have hout := out_of_safeCheck c h i hi
  obtain ⟨hbase, hc0, hnn⟩ := bufP_baseBuf c σ0 i (hout.2.2.2 hbuf)
  unfold RtCtx.initBuf
  simp only []
  rw [if_neg (by rw [show (c.M.outs.getD i default).ty = c.ty i from rfl, hbuf]; simp)]
  cases hd : (c.M.outs.getD i default).defStr with
  | none =>
    -- no default: at most the terminator is stored
    rw [hd] at hbs
    subst hbs
    by_cases hc : ((c.M.outs.getD i default).ty.nullTerm && (c.baseBuf σ0 i).alloc != Alloc.null) = true
    · rw [if_pos hc]
      exact ⟨hbase.update rfl (by simp) hbase.counter_le hbase.counter_null, hc0, nofun⟩
    · rw [if_neg hc]
      exact ⟨hbase, hc0, nofun⟩
  | some _ =>
    rw [hd] at hbs
    subst hbs
    have hfit := hout.2.2.1 _ hd
    have hsz := hbase.size_eq (hbase.writable (hnn _ hd))
    refine ⟨hbase.update rfl ?_ hfit (fun hn => absurd hn (hnn _ hd)), rfl, fun k hk => ?_⟩
    · simp only []
      rw [apply_ite Array.size, Array.size_setIfInBounds, ite_self, foldl_setIfInBounds_size]
    · simp only []
      rw [apply_ite (Array.getD · k none), getD_setIfInBounds_ne _ (Nat.ne_of_gt hk), ite_self]
      exact getD_foldl_range (fun k => some (bs.getD k 0)) none bs.length _ k hk (by rw [hsz]; have := hout.1; omega)

theorem initBuf_of_not_buf (c : RtCtx) (σ0 : CState) (i : Nat) (hbuf : ¬ (c.ty i).isBuf = true) :
    c.initBuf σ0 i = default := by
  unfold RtCtx.initBuf
  simp only []
  rw [if_pos (by rw [show (c.M.outs.getD i default).ty = c.ty i from rfl]; simpa using hbuf)]

theorem initBuf_ok (c : RtCtx) (h : c.safeCheck = true) (σ0 : CState) (i : Nat) (hi : i < c.M.outs.size) :
    BufP c i (c.initBuf σ0 i) := by
  by_cases hbuf : (c.ty i).isBuf = true
  · exact (initBuf_fields c h σ0 i hi hbuf _ rfl).1
  · rw [initBuf_of_not_buf c σ0 i hbuf]
    apply bufP_default
    cases hc : c.ty i <;> simp_all [OutTy.isBuf, OutTy.size]

theorem initStore_str (c : RtCtx) (σ0 : CState) (i : Nat) :
    (c.initStore σ0).str i = if i < c.M.outs.size then c.initBuf σ0 i else default := by
  simp only [CState.str, RtCtx.initStore, Array.getD_eq_getD_getElem?, Array.getElem?_ofFn]
  split <;> rfl

theorem initStore_inv (c : RtCtx) (h : c.safeCheck = true) (σ0 : CState) (hm : σ0.memFault = false) :
    Inv c (c.initStore σ0) := by
  refine ⟨hm, fun i => ?_⟩
  rw [initStore_str]
  split
  · next hi => exact initBuf_ok c h σ0 i hi
  · next hi => exact bufP_default c i (by rw [ty_of_ge c i hi]; rfl)

/-- **`start()` establishes the invariant**: for a machine passing `safeCheck`, whatever the state
    struct held before (its memory-fault flag aside), after `start()` every buffer satisfies the
    buffer invariant and no memory fault has occurred — the hypothesis `Inv` of
    `C03_no_memory_fault` is what every session begins with. -/
theorem C03_start_establishes_inv (c : RtCtx) (hsafe : c.safeCheck = true) (σ0 : CState)
    (hm : σ0.memFault = false) : Inv c (c.start σ0).1 := by
  have h1 := runTree_inv c (sizesOK_of_safeCheck c hsafe) true c.startTree (c.initStore σ0)
    (startGuarded_of_safeCheck c hsafe) (initStore_inv c hsafe σ0 hm)
  simp only [RtCtx.start]
  split <;> exact inv_state _ h1

/-- From a fresh struct through `start()` and any chunked input: no memory fault. -/
theorem C03_session_safe (c : RtCtx) (hsafe : c.safeCheck = true) (σ0 : CState) (hm : σ0.memFault = false)
    (cs : List (List Nat)) (fuel : Nat) (hb : ∀ ch ∈ cs, ∀ b ∈ ch, b < nSym) :
    (c.runChunks fuel (c.start σ0).1 cs 0).σ.memFault = false :=
  C03_no_memory_fault c hsafe cs fuel _ 0 hb (C03_start_establishes_inv c hsafe σ0 hm)

end Nmfu
