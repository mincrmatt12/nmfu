/-
  C04 — feed and end always return: no input makes a generated parser spin.

  In the model every dispatch is a finite tree; the only way a `feed`/`end` call of the emitted
  code can fail to return is a cycle of non-consuming moves (fall-through arms, condition
  branches, out-of-space redirects, breaks), which the tree represents by a `SPIN` leaf where the
  move budget (`stepFuel`, more than twice the number of states) ran out.  `prune` removes the
  branches that contradict what the path has established about each buffer being full;
  `prune_runTree` shows that no concrete run is affected.  Hence, for a machine passing
  `noSpinCheck`, *no store and no byte* can drive a dispatch to `SPIN` (`C04_dispatch_returns`),
  and `feed` on a chunk makes at most `stepFuel` non-consuming moves per byte.
  `noSpinCheck` and `yieldProgressCheck` are evaluated on every machine the real compiler
  accepts (harness/check_C04.py); a candidate is confirmed by running the binary.
-/
import NmfuModel.NoSpin
import NmfuProps.Store
import NmfuProps.C02
namespace Nmfu

/-- The store agrees with what the path has established. -/
def Sat (c : RtCtx) (σ : CState) (α : Full) : Prop :=
  ∀ i v, α i = some v → (v = true ↔ (σ.str i).counter = (c.ty i).cap)

theorem Sat.top (c : RtCtx) (σ : CState) : Sat c σ Full.top := nofun

theorem Sat.congr {c : RtCtx} {σ σ' : CState} {α : Full} (h : Sat c σ α) (hs : ∀ i, σ'.str i = σ.str i) :
    Sat c σ' α := by
  intro i v hv; rw [hs i]; exact h i v hv

theorem Sat.set {c : RtCtx} {σ σ' : CState} {α : Full} {i : Nat} {w : Option Bool} (h : Sat c σ α)
    (hfr : ∀ j, j ≠ i → σ'.str j = σ.str j)
    (hw : ∀ v, w = some v → (v = true ↔ (σ'.str i).counter = (c.ty i).cap)) : Sat c σ' (α.set i w) := by
  intro j v hv
  unfold Full.set at hv
  by_cases hj : j = i
  · rw [if_pos hj] at hv; subst hj; exact hw v hv
  · rw [if_neg hj] at hv; rw [hfr j hj]; exact h j v hv

/-- Recording the answer of an out-of-space test that the store has just given. -/
theorem Sat.record {c : RtCtx} {σ : CState} {α : Full} (h : Sat c σ α) (i : Nat) (v : Bool)
    (hv : v = true ↔ (σ.str i).counter = (c.ty i).cap) : Sat c σ (α.set i (some v)) :=
  h.set (fun _ _ => rfl) (fun _ e => Option.some.inj e ▸ hv)

/-- At most: nothing is stored when `i` is not a buffer of the store, and the counter read is 0. -/
theorem counter_setStr_le (τ : CState) (i : Nat) (b : StrBuf) : ((τ.setStr i b).str i).counter ≤ b.counter := by
  rw [str_setStr]
  split
  · exact Nat.le_refl _
  · next h => rw [str_default_of_ge τ i (fun hlt => h ⟨rfl, hlt⟩)]; exact Nat.zero_le _

theorem apply_delete_counter (c : RtCtx) (σ : CState) (isStart : Bool) (i : Nat) :
    ((c.apply σ isStart (.delete i)).str i).counter ≤ 0 := by
  simp only [RtCtx.apply]
  split <;> exact counter_setStr_le ..

theorem apply_setStr_counter (c : RtCtx) (σ : CState) (isStart : Bool) (i : Nat) (bs : List Nat) :
    ((c.apply σ isStart (.setStr i bs)).str i).counter ≤ bs.length :=
  counter_setStr_le _ i _

/-- What `Full.after` records of a buffer whose counter an event has set to `n` (at most) is true. -/
theorem notFull_of_le {c : RtCtx} {i n : Nat} {b : StrBuf} (hn : b.counter ≤ n) (v : Bool)
    (hv : (if n < (c.ty i).cap then some false else none) = some v) : v = true ↔ b.counter = (c.ty i).cap := by
  by_cases hlt : n < (c.ty i).cap
  · rw [if_pos hlt] at hv
    cases hv
    exact ⟨nofun, fun h => by omega⟩
  · rw [if_neg hlt] at hv
    cases hv

/-- What an event establishes (`Full.after`) is true of the store after the event. -/
theorem Sat.after {c : RtCtx} {σ : CState} {α : Full} (h : Sat c σ α) (isStart : Bool) (a : AEv) :
    Sat c (c.apply σ isStart a) (α.after c a) := by
  have fr {i : Nat} (e : a.buf = some i) (j : Nat) (hj : j ≠ i) : (c.apply σ isStart a).str j = σ.str j :=
    apply_str_ne c σ isStart a (fun e' => hj (Option.some.inj (e.symm.trans e')).symm)
  cases a with
  | append i _ | appendC i _ => exact h.set (fr rfl) nofun
  | delete i => exact h.set (fr rfl) (notFull_of_le (apply_delete_counter ..))
  | setStr i bs => exact h.set (fr rfl) (notFull_of_le (apply_setStr_counter ..))
  | _ => exact h.congr (fun j => apply_str_ne c σ isStart _ nofun)

/-- **Pruning does not change any concrete run.** -/
theorem prune_runTree (c : RtCtx) (isStart : Bool) (t : CTree) :
    ∀ (α : Full) (σ : CState), Sat c σ α →
      c.runTree isStart (prune c α t) σ = c.runTree isStart t σ := by
  intro α
  -- the test itself leaves the store as it is; its answer is what `Sat` speaks of
  have hans (σ : CState) (i : Nat) :
      (c.answer σ (.full i) == some true) = true ↔ (σ.str i).counter = (c.ty i).cap := by
    simp [RtCtx.answer]
  -- cases: an event; an out-of-space test of which `α` knows the answer (yes, no), or not; a condition; a leaf
  fun_induction prune c α t with
  | case1 α a k ih => exact fun σ h => ih _ (h.after isStart a)
  | case2 α i kt kf hα iht =>
    -- a branch that contradicts `α` is never taken
    intro σ h
    simp only [RtCtx.runTree, (hans σ i).2 ((h i true hα).1 rfl), if_true]
    exact iht _ h
  | case3 α i kt kf hα ihf =>
    intro σ h
    have hq : (c.answer σ (.full i) == some true) = false := by
      simpa using fun e => Bool.false_ne_true ((h i false hα).2 ((hans σ i).1 e))
    simp only [RtCtx.runTree, hq, Bool.false_eq_true, if_false]
    exact ihf _ h
  | case4 α i kt kf hα iht ihf =>
    intro σ h
    simp only [RtCtx.runTree]
    split
    · next hq => exact iht _ (h.record i true (by simpa using (hans σ i).1 hq))
    · next hq => exact ihf _ (h.record i false (by simpa using fun e => hq ((hans σ i).2 e)))
  | case5 α q kt kf hq iht ihf =>
    intro σ h
    simp only [RtCtx.runTree]
    split
    · exact iht _ (h.congr (asked_str c isStart σ _ true))
    · exact ihf _ (h.congr (asked_str c isStart σ _ false))
  | case6 => exact fun _ _ => rfl

/-- **Every dispatch returns.**  For a machine passing `noSpinCheck`, no store and no symbol can
    drive the emitted code's dispatch (`feed` on a byte, `end()` on end-of-input) into its move
    budget: it reaches a consuming transition or a return within `stepFuel` non-consuming moves. -/
theorem C04_dispatch_returns (c : RtCtx) (h : c.noSpinCheck = true) (σ : CState) (x : Nat)
    (hx : x < nSym) (st : Int) (adv : Nat) :
    (c.runTree false (c.M.call c.semOpts σ.state x) σ).2 ≠ .ret "SPIN" st adv := by
  rw [← prune_runTree c false _ Full.top σ (Sat.top c σ)]
  simp only [RtCtx.noSpinCheck, List.all_eq_true, List.mem_range] at h
  refine c.M.call_cases c.semOpts x
    (P := fun _ t => (c.runTree false (prune c Full.top t) σ).2 ≠ .ret "SPIN" st adv) (fun s hs => ?_)
    (fun s _ => by simp [prune, RtCtx.runTree]) σ.state
  obtain ⟨p, hp, hl⟩ := runTree_leaf_mem_paths c false (prune c Full.top (c.M.call c.semOpts s x)) σ
  have := h s hs x hx p hp
  intro heq
  simp [hl, heq] at this

/-- The list-level feed never reports the spin code either. -/
theorem C04_feed_returns (c : RtCtx) (h : c.noSpinCheck = true) :
    ∀ (inp : List Nat) (σ σ' : CState) (pos p : Nat),
      (∀ b ∈ inp, b < nSym) → c.feedL σ inp pos ≠ .returned σ' "SPIN" p :=
  feedL_code_ne c "SPIN" (by decide) (C04_dispatch_returns c h)

end Nmfu
