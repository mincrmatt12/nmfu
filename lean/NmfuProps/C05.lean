/-
  C05 — optimisation levels and flags never change parser behaviour.

  The theorem below is `certOK_sound`/`certOK_lag_one` instantiated at compiled machines: if the
  certificate check succeeds for the machines the compiler built at two optimisation settings,
  then on every input (bytes and end-of-input) and under every outcome of every data test the two
  parsers perform the same sequence of actions (hook calls, appends, assignments, yields, breaks,
  result codes), one of them at most one input step ahead of the other, and the same sequence
  once both have returned a terminal code.  `harness/check_C05.py` evaluates `certOK` (compiled
  Lean) on the machines exported from the current /repo/nmfu.py.
-/
import NmfuModel.Mach
import NmfuProps.EquivSound
namespace Nmfu

theorem C05_optimised_equivalent (A B : Machine) (o : SemOpts) (V : List (PS Nat Nat AEv Quest))
    (h : certOK (A.sm o) (B.sm o) nSym V = true) (ω : Oracle AEv Quest) (w : List Nat)
    (hw : ∀ x ∈ w, x < nSym) :
    Comparable ((A.sm o).events ω w) ((B.sm o).events ω w) ∧
    ((A.sm o).finalCfg ω w = none → (B.sm o).finalCfg ω w = none →
      (A.sm o).events ω w = (B.sm o).events ω w) :=
  certOK_sound h (by decide) ω w hw

theorem C05_lag_at_most_one_step (A B : Machine) (o : SemOpts) (V : List (PS Nat Nat AEv Quest))
    (h : certOK (A.sm o) (B.sm o) nSym V = true) (ω : Oracle AEv Quest) (w : List Nat) (x : Nat)
    (hw : ∀ y ∈ w, y < nSym) (hx : x < nSym) :
    (A.sm o).events ω w <+: (B.sm o).events ω (w ++ [x]) ∧
    (B.sm o).events ω w <+: (A.sm o).events ω (w ++ [x]) :=
  certOK_lag_one h ω w x hw hx

/-! Non-vacuity: two different machines for `"a"; h();` — one calls the hook on the arm that
consumes `a`, the other on a fall-through taken at the next symbol — have a valid certificate,
and a machine calling another hook has none among the obvious candidates. -/

def exFail : St := ⟨.fail, false, []⟩
def exEager : Machine :=
  { states := #[⟨.normal, false, [⟨[97], .else_, 1, false, false, .cons (.hook "h") .nil⟩,
                                  ⟨[onElse], .else_, 2, true, true, .nil⟩]⟩,
                ⟨.normal, false, [⟨[onElse], .else_, 2, true, true, .nil⟩]⟩, exFail],
    start := 0, outs := #[], startActs := .nil, hooks := ["h"], finishCodes := [], yieldCodes := [] }
def exLazy : Machine :=
  { states := #[⟨.normal, false, [⟨[97], .else_, 1, false, false, .nil⟩,
                                  ⟨[onElse], .else_, 3, true, true, .nil⟩]⟩,
                ⟨.normal, false, [⟨[onElse], .else_, 2, true, false, .cons (.hook "h") .nil⟩]⟩,
                ⟨.normal, false, [⟨[onElse], .else_, 3, true, true, .nil⟩]⟩, exFail],
    start := 0, outs := #[], startActs := .nil, hooks := ["h"], finishCodes := [], yieldCodes := [] }

def exOpts : SemOpts := { strictDone := false, substLast := false }
def exCert : List (PS Nat Nat AEv Quest) :=
  [⟨some 0, some 0, [], false⟩, ⟨none, none, [], false⟩,
   ⟨some 1, some 1, [.act (.hook "h" none)], true⟩]

example : certOK (exEager.sm exOpts) (exLazy.sm exOpts) nSym exCert = true := by decide +kernel

/-- `exEager` calling another hook: the check below is not satisfied. -/
def exOther : Machine :=
  { exEager with states := #[⟨.normal, false, [⟨[97], .else_, 1, false, false, .cons (.hook "g") .nil⟩,
                        ⟨[onElse], .else_, 2, true, true, .nil⟩]⟩,
                ⟨.normal, false, [⟨[onElse], .else_, 2, true, true, .nil⟩]⟩, exFail] }
example : stepCheck (exOther.sm exOpts) (exLazy.sm exOpts)
    ⟨some 1, some 1, [.act (.hook "g" none)], true⟩ 98 = none := by decide +kernel

end Nmfu
