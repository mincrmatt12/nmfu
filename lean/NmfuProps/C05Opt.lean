/-
  C05, the part that is a theorem about the optimiser itself (for *every* machine, not per compiled
  instance): the pass `_optimize_simplify_transition_matches`, mirrored by `Machine.simplifyElse`
  (NmfuModel/Opt.lean; the mirror is compared with the real pass on every invocation the harness
  observes), does not change the emitted code's behaviour at all — the dispatch tree of every state on
  every byte and on end-of-input is *the same tree*, hence the same events, questions, result codes,
  cursor advances and successor states under every store.

  Hypothesis: the table is deterministic (`Machine.deterministic`: no symbol is listed by two
  transitions of one state) — decidable, evaluated on every exported machine.  It is needed: with
  `End` listed by two transitions the pass *does* change which one `end()` takes
  (`simplifyElse_needs_determinism` below is that machine).
-/
import NmfuModel.Opt
import NmfuProps.DispatchRel
namespace Nmfu

/-! ### The pass on one transition -/

theorem Arm.simplifyElse_eq (a : Arm) :
    a.simplifyElse = a ∨ a.isElse = true ∧ a.simplifyElse = { a with on := [onElse] } := by
  unfold Arm.simplifyElse
  by_cases h : (decide (a.on.length > 1) && a.isElse) = true
  · exact Or.inr ⟨(Bool.and_eq_true_iff.mp h).2, if_pos h⟩
  · exact Or.inl (if_neg h)

theorem Arm.simplifyElse_isElse (a : Arm) : a.simplifyElse.isElse = a.isElse := by
  rcases a.simplifyElse_eq with h | ⟨he, h⟩
  · rw [h]
  · rw [h, he]; rfl

theorem Arm.simplifyElse_of_not_else (a : Arm) (h : a.isElse = false) : a.simplifyElse = a := by
  rw [Arm.simplifyElse, h, Bool.and_false]; rfl

theorem Arm.simplifyElse_target (a : Arm) : a.simplifyElse.target = a.target := by
  rcases a.simplifyElse_eq with h | ⟨_, h⟩ <;> rw [h]
theorem Arm.simplifyElse_fall (a : Arm) : a.simplifyElse.fall = a.fall := by
  rcases a.simplifyElse_eq with h | ⟨_, h⟩ <;> rw [h]
theorem Arm.simplifyElse_err (a : Arm) : a.simplifyElse.err = a.err := by
  rcases a.simplifyElse_eq with h | ⟨_, h⟩ <;> rw [h]
theorem Arm.simplifyElse_acts (a : Arm) : a.simplifyElse.acts = a.acts := by
  rcases a.simplifyElse_eq with h | ⟨_, h⟩ <;> rw [h]
theorem Arm.simplifyElse_cond (a : Arm) : a.simplifyElse.cond = a.cond := by
  rcases a.simplifyElse_eq with h | ⟨_, h⟩ <;> rw [h]

theorem Arm.simplifyElse_contains {a : Arm} {x : Nat} (h : a.simplifyElse.on.contains x = true) :
    a.on.contains x = true := by
  rcases a.simplifyElse_eq with h' | ⟨he, h'⟩
  · rwa [h'] at h
  · rw [h', List.contains_iff_mem, List.mem_singleton] at h
    rw [h]; exact he

/-! ### The transition a deterministic state takes -/

theorem armsDisjoint_iff {arms : List Arm} : armsDisjoint arms = true ↔
    arms.Pairwise fun a b => ∀ v, a.on.contains v = true → b.on.contains v = false := by
  induction arms with
  | nil => exact ⟨fun _ => .nil, fun _ => rfl⟩
  | cons a r ih =>
    simp only [armsDisjoint, Bool.and_eq_true, ih, List.pairwise_cons, List.all_eq_true, Bool.not_eq_true',
      List.contains_iff_mem]

theorem armsDisjoint_cons {a : Arm} {r : List Arm} : armsDisjoint (a :: r) = true ↔
    (∀ b ∈ r, ∀ v, a.on.contains v = true → b.on.contains v = false) ∧ armsDisjoint r = true := by
  rw [armsDisjoint_iff, List.pairwise_cons, armsDisjoint_iff]

theorem find_listed {arms : List Arm} (hd : armsDisjoint arms = true) {a : Arm} (ha : a ∈ arms) {x : Nat}
    (hx : a.on.contains x = true) : arms.find? (fun b => b.on.contains x) = some a := by
  -- the transitions in front of `a` are disjoint from it: none of them lists `x`
  obtain ⟨pre, post, rfl⟩ := List.append_of_mem ha
  have hdis := (List.pairwise_append.mp (armsDisjoint_iff.mp hd)).2.2
  exact List.find?_eq_some_iff_append.mpr ⟨hx, pre, post, rfl, fun b hb => Bool.not_eq.mpr fun hbx =>
    Bool.false_ne_true ((hdis b hb a List.mem_cons_self x hbx).symm.trans hx)⟩

/-- `state[x]` (`DFState.__getitem__`): the first transition that lists `x`, otherwise the first that lists `Else` -/
def St.lookup (s : St) (x : Nat) : Option Arm := (s.arms.find? fun a => a.on.contains x).or s.elseArm

theorem St.endArm_eq_lookup (s : St) : s.endArm = s.lookup symEnd := by
  rw [St.endArm, St.lookup]
  cases s.arms.find? _ <;> rfl

theorem St.feedArm_go_seen (x : Nat) (p : Arm → Bool) (arms : List Arm) :
    St.feedArm.go x p arms true = arms.find? fun a => a.on.contains x := by
  induction arms with
  | nil => rfl
  | cons a r ih =>
    rw [St.feedArm.go, Bool.not_true, Bool.and_false, if_neg Bool.false_ne_true, ih, List.find?_cons]
    cases a.on.contains x <;> rfl

theorem St.feedArm_go_disjoint (x : Nat) {arms : List Arm} (hd : armsDisjoint arms = true) :
    (St.feedArm.go x (fun a => a.on.contains onElse) arms false).or (arms.find? fun a => a.on.contains onElse) =
      (arms.find? fun a => a.on.contains x).or (arms.find? fun a => a.on.contains onElse) := by
  induction arms with
  | nil => rfl
  | cons a r ih =>
    obtain ⟨ha, hr⟩ := armsDisjoint_cons.mp hd
    rw [St.feedArm.go, Bool.not_false, Bool.and_true]
    cases he : a.on.contains onElse with
    | false =>
      cases hx : a.on.contains x with
      | false => simp only [List.find?_cons, he, hx, Bool.false_eq_true, if_false]; exact ih hr
      | true => simp only [List.find?_cons, hx, if_true, if_false, Bool.false_eq_true, Option.some_or]
    | true =>
      -- the else-transition, which the if-chain skips: if it lists `x`, no later transition does
      simp only [List.find?_cons, he, if_true, St.feedArm_go_seen]
      cases hx : a.on.contains x with
      | false => rfl
      | true =>
        rw [List.find?_eq_none.mpr fun b hb => by rw [ha b hb x hx]; exact Bool.false_ne_true]; rfl

/-- The if-chain of `feed` implements `state[x]` when the state is deterministic: skipping the else-transition
    does not matter, since what it lists no other transition lists. -/
theorem St.feedArm_eq_lookup {s : St} (hd : armsDisjoint s.arms = true) (x : Nat) : s.feedArm x = s.lookup x := by
  rw [St.lookup, St.elseArm, ← St.feedArm_go_disjoint x hd, St.feedArm, St.elseArm]
  cases St.feedArm.go x _ s.arms false <;> rfl

/-! ### The pass on one state -/

theorem St.simplifyElse_kind (s : St) : s.simplifyElse.kind = s.kind := rfl
theorem St.simplifyElse_accepting (s : St) : s.simplifyElse.accepting = s.accepting := rfl
theorem St.simplifyElse_arms (s : St) : s.simplifyElse.arms = s.arms.map Arm.simplifyElse := rfl

theorem armsDisjoint_simplify (arms : List Arm) (h : armsDisjoint arms = true) :
    armsDisjoint (arms.map Arm.simplifyElse) = true :=
  armsDisjoint_iff.mpr <| (armsDisjoint_iff.mp h).map _ fun _ _ hab v hv =>
    Bool.eq_false_iff.mpr fun hb =>
      Bool.eq_false_iff.mp (hab v (Arm.simplifyElse_contains hv)) (Arm.simplifyElse_contains hb)

theorem elseArm_simplify (s : St) : s.simplifyElse.elseArm = s.elseArm.map Arm.simplifyElse := by
  rw [St.elseArm, St.elseArm, St.simplifyElse_arms, List.find?_map,
    show (fun a : Arm => a.on.contains onElse) ∘ Arm.simplifyElse = fun a => a.on.contains onElse from
      funext Arm.simplifyElse_isElse]

/-- The pass only removes symbols, and only from the else-transition; what it removes there no other transition of
    a deterministic state lists, so afterwards the lookup falls through to `state[Else]`: the same transition. -/
theorem St.lookup_simplify {s : St} (hd : armsDisjoint s.arms = true) (x : Nat) :
    s.simplifyElse.lookup x = (s.lookup x).map Arm.simplifyElse := by
  rw [St.lookup, St.lookup, elseArm_simplify, St.simplifyElse_arms, List.find?_map, ← Option.map_or]
  refine congrArg _ ?_
  cases h : s.arms.find? ((fun a => a.on.contains x) ∘ Arm.simplifyElse) with
  | some a =>
    -- `a` lists `x` after the pass, hence before
    have hx := List.find?_some h
    rw [find_listed hd (List.mem_of_find?_eq_some h) (Arm.simplifyElse_contains hx)]
  | none =>
    cases h' : s.arms.find? fun a => a.on.contains x with
    | none => rfl
    | some a =>
      -- `a` listed `x` and no longer does: it is the else-transition, and `state[Else]` finds it
      have ha := List.mem_of_find?_eq_some h'
      have he : a.isElse = true := by
        cases he : a.isElse
        · have := List.find?_eq_none.mp h a ha
          rw [Function.comp, Arm.simplifyElse_of_not_else a he] at this
          exact absurd (List.find?_some h') this
        · rfl
      rw [St.elseArm, find_listed hd ha he]; rfl

/-- **`feed` takes the same transition** of a state before and after the pass (up to the rewritten
    symbol list). -/
theorem feedArm_simplify (s : St) (hd : armsDisjoint s.arms = true) (x : Nat) :
    s.simplifyElse.feedArm x = (s.feedArm x).map Arm.simplifyElse := by
  rw [St.feedArm_eq_lookup (armsDisjoint_simplify _ hd), St.feedArm_eq_lookup hd, St.lookup_simplify hd]

/-- **`end()` takes the same transition** of a deterministic state before and after the pass. -/
theorem endArm_simplify (s : St) (hd : armsDisjoint s.arms = true) :
    s.simplifyElse.endArm = s.endArm.map Arm.simplifyElse := by
  rw [St.endArm_eq_lookup, St.endArm_eq_lookup, St.lookup_simplify hd]

/-! ### The machine -/

theorem Machine.simplifyElse_size (M : Machine) : M.simplifyElse.states.size = M.states.size := by
  simp [Machine.simplifyElse]

theorem Machine.simplifyElse_st (M : Machine) (i : Nat) : M.simplifyElse.st i = (M.st i).simplifyElse := by
  simp only [Machine.st, Machine.simplifyElse, Array.getD_eq_getD_getElem?, Array.getElem?_map]
  cases M.states[i]? <;> rfl

theorem St.simplifyElse_allErr (s : St) : s.simplifyElse.arms.all (·.err) = s.arms.all (·.err) := by
  simp [St.simplifyElse_arms, List.all_map, Function.comp_def, Arm.simplifyElse_err]

theorem Machine.simplifyElse_isAccepting (M : Machine) (t : Int) :
    M.simplifyElse.isAccepting t = M.isAccepting t := by
  simp [Machine.isAccepting, Machine.simplifyElse_st, St.simplifyElse_accepting]

theorem Machine.simplifyElse_immediateDone (M : Machine) (o : SemOpts) (a : Arm) (e : Bool) :
    M.simplifyElse.immediateDone o a.simplifyElse e = M.immediateDone o a e := by
  simp only [Machine.immediateDone, Machine.simplifyElse_isAccepting, Machine.simplifyElse_st,
    St.simplifyElse_allErr, Arm.simplifyElse_target, Arm.simplifyElse_fall]

theorem Machine.simplifyElse_failTarget (M : Machine) : M.simplifyElse.failTarget = M.failTarget := by
  have hf : (fun i => (M.simplifyElse.states.getD i default).kind == StKind.fail) =
      fun i => (M.states.getD i default).kind == StKind.fail :=
    funext fun i => by rw [← Machine.st, Machine.simplifyElse_st]; rfl
  simp only [Machine.failTarget, Machine.failIdx, Machine.simplifyElse_size, hf]

theorem Machine.simplifyElse_armTree (M : Machine) (o : SemOpts) (si : Int) (src : St) (a : Arm)
    (x adv : Nat) (re : Int → Nat → CTree) :
    M.simplifyElse.armTree o si src.simplifyElse a.simplifyElse x adv re = M.armTree o si src a x adv re := by
  simp only [Machine.armTree_eq, Machine.armAdv, Machine.simplifyElse_immediateDone, Arm.simplifyElse_acts,
    Arm.simplifyElse_fall, Arm.simplifyElse_target, Machine.simplifyElse_failTarget,
    St.simplifyElse_accepting, Machine.simplifyElse_isAccepting]

theorem Machine.deterministic_iff {M : Machine} :
    M.deterministic = true ↔ ∀ s ∈ M.states, armsDisjoint s.arms = true :=
  Array.all_eq_true_iff_forall_mem

theorem Machine.deterministic_st (M : Machine) (h : M.deterministic = true) (i : Nat) :
    armsDisjoint (M.st i).arms = true := by
  rw [Machine.st, Array.getD_eq_getD_getElem?]
  cases hi : M.states[i]? with
  | none => rfl
  | some s => exact Machine.deterministic_iff.mp h s (Array.mem_of_getElem? hi)

/-- **The pass leaves every dispatch tree as it is.**  For a deterministic table, from every state
    (an index outside the table included), on every byte and on end-of-input, with any budget of
    non-consuming moves, the emitted code of the simplified machine unfolds into *the same* interaction
    tree: same events, same questions, same leaves (result code, successor state, cursor advance). -/
theorem Machine.simplifyElse_dispatch (M : Machine) (hd : M.deterministic = true) (o : SemOpts) :
    ∀ (fuel : Nat) (s : Int) (x adv : Nat),
      M.simplifyElse.dispatch o fuel s x adv = M.dispatch o fuel s x adv := by
  intro fuel
  induction fuel with
  | zero => intro s x adv; rfl
  | succ fuel ih =>
    intro s x adv
    have hdis := Machine.deterministic_st M hd s.toNat
    refine dispatch_succ_rel (f := Arm.simplifyElse) (hask := fun _ _ _ _ _ h1 h2 => h1 ▸ h2 ▸ rfl)
      (hret := fun _ _ => rfl) (hcond := Arm.simplifyElse_cond)
      (hfail := fun _ _ => by rw [Machine.simplifyElse_failTarget]) (herr := Arm.simplifyElse_err)
      (hout := by rw [Machine.simplifyElse_size]) fun _ => ?_
    rw [Machine.simplifyElse_st, funext fun t => funext fun n => ih t x n]
    exact ⟨⟨rfl, rfl, rfl⟩, St.armOn_map (endArm_simplify _ hdis) (feedArm_simplify _ hdis x),
      fun a _ => Machine.simplifyElse_armTree ..⟩

theorem Machine.simplifyElse_call (M : Machine) (hd : M.deterministic = true) (o : SemOpts) (s : Int) (x : Nat) :
    M.simplifyElse.call o s x = M.call o s x := by
  simp only [Machine.call, Machine.stepFuel, Machine.simplifyElse_size]
  exact Machine.simplifyElse_dispatch M hd o _ s x 0

theorem Machine.simplifyElse_step (M : Machine) (hd : M.deterministic = true) (o : SemOpts) :
    M.simplifyElse.step o = M.step o := by
  funext fuelY
  induction fuelY with
  | zero => rfl
  | succ n ih =>
    funext s x
    rw [Machine.step, Machine.step, Machine.simplifyElse_call M hd, ih]

/-- **C05 for `simplify-else-conditions`, for every program at once**: the machine before and the
    machine after the pass are the same symbolic machine — same start, same step function — so every
    run (any input, any oracle for the data tests) is literally the same run. -/
theorem C05_simplify_else_preserves (M : Machine) (hd : M.deterministic = true) (o : SemOpts) :
    M.simplifyElse.sm o = M.sm o := by
  rw [Machine.sm, Machine.sm, Machine.simplifyElse_step M hd]
  rfl

theorem C05_simplify_else_preserves_with_start (M : Machine) (hd : M.deterministic = true) (o : SemOpts) :
    M.simplifyElse.smS o = M.smS o := by
  rw [Machine.smS, Machine.smS, Machine.simplifyElse_step M hd, Machine.simplifyElse_size]
  rfl

/-! ### The pass inside the fix-point loop of `compile()` -/

theorem Arm.simplifyElse_idem (a : Arm) : a.simplifyElse.simplifyElse = a.simplifyElse := by
  rcases a.simplifyElse_eq with h | ⟨_, h⟩
  · rw [h, h]
  · rw [h]; rfl

theorem St.simplifyElse_idem (s : St) : s.simplifyElse.simplifyElse = s.simplifyElse := by
  -- through `comp_apply`: asked whether `(f ∘ f) a` is `f (f a)`, Lean unfolds `Arm.simplifyElse` before `∘`
  have hf : Arm.simplifyElse ∘ Arm.simplifyElse = Arm.simplifyElse :=
    funext fun a => Function.comp_apply.trans a.simplifyElse_idem
  rw [St.simplifyElse, St.simplifyElse_arms, List.map_map, hf, St.simplifyElse]

/-- The pass is idempotent: a second invocation modifies nothing (the fix-point loop of `compile()` is not kept
    going by this pass alone). -/
theorem Machine.simplifyElse_idem (M : Machine) : M.simplifyElse.simplifyElse = M.simplifyElse := by
  have hf : (St.simplifyElse ∘ St.simplifyElse) = St.simplifyElse := funext St.simplifyElse_idem
  simp only [Machine.simplifyElse, Array.map_map, hf]

/-- the pass keeps a deterministic table deterministic: the preservation theorem applies again to the next
    invocation of the fix-point loop -/
theorem Machine.simplifyElse_deterministic (M : Machine) (h : M.deterministic = true) :
    M.simplifyElse.deterministic = true := by
  rw [Machine.deterministic_iff] at h ⊢
  intro s' hs'
  obtain ⟨s, hs, rfl⟩ := Array.mem_map.mp hs'
  exact armsDisjoint_simplify _ (h s hs)

/-! ### The hypothesis is needed, and it is satisfiable -/

/-- two transitions of one state list `End` (not a deterministic table): before the pass `end()` takes
    the first (which also lists `Else`), after it the second -/
def nondetMachine : Machine :=
  { states := #[⟨.normal, false,
      [⟨[symEnd, onElse], .else_, 0, false, false, .nil⟩,
       ⟨[symEnd], .else_, -1, false, true, .nil⟩]⟩],
    start := 0, outs := #[], startActs := .nil, hooks := [], finishCodes := [], yieldCodes := [] }

theorem simplifyElse_needs_determinism :
    nondetMachine.deterministic = false ∧
    ((nondetMachine.st 0).endArm.map (·.target)) = some 0 ∧
    ((nondetMachine.simplifyElse.st 0).endArm.map (·.target)) = some (-1) := by
  decide +kernel

/-- a deterministic state whose else-transition lists a byte and `End` as well: the pass rewrites it,
    the hypothesis holds, and `feed`/`end()` still take the same transitions -/
def detMachine : Machine :=
  { states := #[⟨.normal, false,
      [⟨[97], .else_, 0, false, false, .nil⟩,
       ⟨[98, symEnd, onElse], .else_, -1, false, true, .nil⟩]⟩],
    start := 0, outs := #[], startActs := .nil, hooks := [], finishCodes := [], yieldCodes := [] }

example : detMachine.deterministic = true ∧
    ((detMachine.simplifyElse.st 0).arms.map (·.on)) = [[97], [onElse]] ∧
    ((detMachine.simplifyElse.st 0).feedArm 98).map (·.target) = some (-1) ∧
    ((detMachine.simplifyElse.st 0).endArm).map (·.target) = some (-1) := by
  decide +kernel

end Nmfu
