/-
  C05, second pass inside the model: `_optimize_remove_inaccessible`, mirrored by `Machine.removeInaccessible`
  = `Machine.removeStates reachable` (NmfuModel/Opt.lean; compared with the real pass on every invocation).

  The theorem is a simulation (`Sim`) for any renumbering that finds every kept state, renamed, at its new index
  (`RenOK`), through the mutual recursion of actions, the arm body in the pieces of DispatchRel.lean and the budgeted
  dispatch; then the rank-based renumbering of the model is shown to be one, and `dispatch_mono` (one more
  non-consuming move changes nothing unless the budget had run out) carries the theorem to calls with each machine's
  own budget.  DESIGN.md §2 has the route in full.
-/
import NmfuProps.C05Opt
namespace Nmfu

def Tree.mapL {A Q L L' : Type} (f : L → L') : Tree A Q L → Tree A Q L'
  | .emit a k => .emit a (k.mapL f)
  | .ask q a b => .ask q (a.mapL f) (b.mapL f)
  | .leaf l => .leaf (f l)

/-- erase the state a returning leaf carries (`Machine.step` ignores it: the call is over) -/
def eraseRet : MLeaf → MLeaf
  | .ret c _ adv => .ret c 0 adv
  | l => l

/-- renumber the state a leaf carries (and erase it where `eraseRet` does) -/
def renLeaf (ρ : Int → Int) : MLeaf → MLeaf
  | .next s adv => .next (ρ s) adv
  | .ret c _ adv => .ret c 0 adv
  | .yielded c s adv => .yielded c (ρ s) adv

/-- the tree of the renumbered machine is the tree of the original with successor states renumbered -/
def Sim (ρ : Int → Int) (T' T : CTree) : Prop := T'.mapL eraseRet = T.mapL (renLeaf ρ)

theorem Sim.emit {ρ : Int → Int} {T' T : CTree} (e : AEv) (h : Sim ρ T' T) : Sim ρ (.emit e T') (.emit e T) := by
  simp only [Sim, Tree.mapL] at *; rw [h]
theorem Sim.ask {ρ : Int → Int} {A' A B' B : CTree} (q : Quest) (h1 : Sim ρ A' A) (h2 : Sim ρ B' B) :
    Sim ρ (.ask q A' B') (.ask q A B) := by
  simp only [Sim, Tree.mapL] at *; rw [h1, h2]
theorem Sim.ret {ρ : Int → Int} (c : String) (s' s : Int) (adv : Nat) : Sim ρ (.leaf (.ret c s' adv)) (.leaf (.ret c s adv)) := by
  simp [Sim, Tree.mapL, eraseRet, renLeaf]
theorem Sim.next {ρ : Int → Int} (s : Int) (adv : Nat) : Sim ρ (.leaf (.next (ρ s) adv)) (.leaf (.next s adv)) := by
  simp [Sim, Tree.mapL, eraseRet, renLeaf]
theorem Sim.yielded {ρ : Int → Int} (c : String) (s : Int) (adv : Nat) :
    Sim ρ (.leaf (.yielded c (ρ s) adv)) (.leaf (.yielded c s adv)) := by
  simp [Sim, Tree.mapL, eraseRet, renLeaf]

section
variable (ren : Array Int) (good : Int → Prop)

mutual
  theorem Act.tree_sim (o : SemOpts) (x adv advBase : Nat) (re re' : Int → Nat → CTree) (oc oc' : Int → CTree)
      (hre : ∀ h n, good h → Sim (renT ren) (re' (renT ren h) n) (re h n))
      (hoc : ∀ h, good h → Sim (renT ren) (oc' (renT ren h)) (oc h)) :
      ∀ (a : Act) (st : Int) (kN kS kN' kS' : Int → CTree),
        (∀ t ∈ a.targets, good t) → good st →
        (∀ s, good s → Sim (renT ren) (kN' (renT ren s)) (kN s)) →
        (∀ s, good s → Sim (renT ren) (kS' (renT ren s)) (kS s)) →
        Sim (renT ren) ((a.rename ren).tree ⟨o, x, adv, advBase, re', oc'⟩ (renT ren st) kN' kS')
          (a.tree ⟨o, x, adv, advBase, re, oc⟩ st kN kS)
    | .finish none, _, _, _, _, _, _, _, _, _ | .finish (some _), _, _, _, _, _, _, _, _, _ => Sim.ret ..
    | .yield _, _, _, _, _, _, _, _, _, _ => Sim.yielded ..
    | .hook _, st, _, _, _, _, _, hst, hN, _ => Sim.emit _ (hN st hst)
    | .append oos _, st, _, _, _, _, ht, hst, hN, _ =>
        Sim.ask _ (hre oos _ (ht oos (.head _))) (Sim.emit _ (hN st hst))
    | .appendC oos _ _ _, st, _, _, _, _, ht, hst, hN, _ =>
        Sim.ask _ (ite_rel (fun _ => hre oos _ (ht oos (.head _))) fun _ => hoc oos (ht oos (.head _)))
          (Sim.emit _ (hN st hst))
    | .set _ _, st, _, _, _, _, _, hst, hN, _ | .setStr _ _, st, _, _, _, _, _, hst, hN, _
    | .delete _, st, _, _, _, _, _, hst, hN, _ => ite_rel (fun _ => hN st hst) fun _ => Sim.emit _ (hN st hst)
    | .brk e after, st, _, kS, _, kS', ht, hst, _, hS =>
        Acts.tree_sim o x adv advBase re re' oc oc' hre hoc after st _ kS _ kS'
          (fun t h => ht t (.tail _ h)) hst (fun _ _ => hS e (ht e (.head _))) hS
    | .cond bs, st, kN, kS, kN', kS', ht, hst, hN, hS =>
        Branches.tree_sim o x adv advBase re re' oc oc' hre hoc bs st kN kS kN' kS' ht hst hN hS
  theorem Acts.tree_sim (o : SemOpts) (x adv advBase : Nat) (re re' : Int → Nat → CTree) (oc oc' : Int → CTree)
      (hre : ∀ h n, good h → Sim (renT ren) (re' (renT ren h) n) (re h n))
      (hoc : ∀ h, good h → Sim (renT ren) (oc' (renT ren h)) (oc h)) :
      ∀ (a : Acts) (st : Int) (kN kS kN' kS' : Int → CTree),
        (∀ t ∈ a.targets, good t) → good st →
        (∀ s, good s → Sim (renT ren) (kN' (renT ren s)) (kN s)) →
        (∀ s, good s → Sim (renT ren) (kS' (renT ren s)) (kS s)) →
        Sim (renT ren) ((a.rename ren).tree ⟨o, x, adv, advBase, re', oc'⟩ (renT ren st) kN' kS')
          (a.tree ⟨o, x, adv, advBase, re, oc⟩ st kN kS)
    | .nil, st, _, _, _, _, _, hst, hN, _ => hN st hst
    | .cons a r, st, kN, kS, kN', kS', ht, hst, hN, hS =>
        Act.tree_sim o x adv advBase re re' oc oc' hre hoc a st _ kS _ kS'
          (List.forall_mem_append.mp ht).1 hst
          (fun s hs => Acts.tree_sim o x adv advBase re re' oc oc' hre hoc r s kN kS kN' kS'
            (List.forall_mem_append.mp ht).2 hs hN hS) hS
  theorem Branches.tree_sim (o : SemOpts) (x adv advBase : Nat) (re re' : Int → Nat → CTree) (oc oc' : Int → CTree)
      (hre : ∀ h n, good h → Sim (renT ren) (re' (renT ren h) n) (re h n))
      (hoc : ∀ h, good h → Sim (renT ren) (oc' (renT ren h)) (oc h)) :
      ∀ (a : Branches) (st : Int) (kN kS kN' kS' : Int → CTree),
        (∀ t ∈ a.targets, good t) → good st →
        (∀ s, good s → Sim (renT ren) (kN' (renT ren s)) (kN s)) →
        (∀ s, good s → Sim (renT ren) (kS' (renT ren s)) (kS s)) →
        Sim (renT ren) ((a.rename ren).tree ⟨o, x, adv, advBase, re', oc'⟩ (renT ren st) kN' kS')
          (a.tree ⟨o, x, adv, advBase, re, oc⟩ st kN kS)
    | .nil, st, _, _, _, _, _, hst, hN, _ => hN st hst
    | .cons c body rest, st, kN, kS, kN', kS', ht, hst, hN, hS => by
        have hb := Acts.tree_sim o x adv advBase re re' oc oc' hre hoc body st kN kS kN' kS'
          (List.forall_mem_append.mp ht).1 hst hN hS
        have hr := Branches.tree_sim o x adv advBase re re' oc oc' hre hoc rest st kN kS kN' kS'
          (List.forall_mem_append.mp ht).2 hst hN hS
        match c with
        | .else_ | .const true => exact hb
        | .const false => exact hr
        | .expr _ => exact Sim.ask _ hb hr
end
end

/-! ### Renaming does not touch what the dispatch looks at -/

mutual
  theorem Act.rename_mayYield (ren : Array Int) : ∀ a : Act, (a.rename ren).mayYield = a.mayYield
    | .finish _ | .yield _ | .hook _ | .append _ _ | .appendC _ _ _ _ | .set _ _ | .setStr _ _ | .delete _
    | .brk _ _ => rfl
    | .cond bs => by simp only [Act.rename, Act.mayYield]; exact Branches.rename_mayYield ren bs
  theorem Acts.rename_mayYield (ren : Array Int) : ∀ a : Acts, (a.rename ren).mayYield = a.mayYield
    | .nil => rfl
    | .cons a r => by simp only [Acts.rename, Acts.mayYield, Act.rename_mayYield ren a, Acts.rename_mayYield ren r]
  theorem Branches.rename_mayYield (ren : Array Int) : ∀ a : Branches, (a.rename ren).mayYield = a.mayYield
    | .nil => rfl
    | .cons _ b r => by
      simp only [Branches.rename, Branches.mayYield, Acts.rename_mayYield ren b, Branches.rename_mayYield ren r]
end

theorem Arm.rename_on (ren : Array Int) (a : Arm) : (a.rename ren).on = a.on := rfl
theorem Arm.rename_fall (ren : Array Int) (a : Arm) : (a.rename ren).fall = a.fall := rfl
theorem Arm.rename_err (ren : Array Int) (a : Arm) : (a.rename ren).err = a.err := rfl
theorem Arm.rename_cond (ren : Array Int) (a : Arm) : (a.rename ren).cond = a.cond := rfl
theorem Arm.rename_target (ren : Array Int) (a : Arm) : (a.rename ren).target = renT ren a.target := rfl
theorem Arm.rename_acts (ren : Array Int) (a : Arm) : (a.rename ren).acts = a.acts.rename ren := rfl
theorem St.rename_kind (ren : Array Int) (s : St) : (s.rename ren).kind = s.kind := rfl
theorem St.rename_accepting (ren : Array Int) (s : St) : (s.rename ren).accepting = s.accepting := rfl
theorem St.rename_arms (ren : Array Int) (s : St) : (s.rename ren).arms = s.arms.map (Arm.rename ren) := rfl

theorem St.feedArm_go_rename (ren : Array Int) (x : Nat) (arms : List Arm) (seen : Bool) :
    St.feedArm.go x (fun a => a.on.contains onElse) (arms.map (Arm.rename ren)) seen =
      (St.feedArm.go x (fun a => a.on.contains onElse) arms seen).map (Arm.rename ren) := by
  fun_induction St.feedArm.go x (fun a => a.on.contains onElse) arms seen with
  | case1 => rfl
  | case2 seen a r h1 ih => rw [List.map_cons, St.feedArm.go, Arm.rename_on, if_pos h1, ih]
  | case3 seen a r h1 hx => rw [List.map_cons, St.feedArm.go, Arm.rename_on, if_neg h1, if_pos hx]; rfl
  | case4 seen a r h1 hx ih => rw [List.map_cons, St.feedArm.go, Arm.rename_on, if_neg h1, if_neg hx, ih]

theorem St.elseArm_rename (ren : Array Int) (s : St) : (s.rename ren).elseArm = s.elseArm.map (Arm.rename ren) := by
  simp only [St.elseArm, St.rename_arms, List.find?_map]
  rfl

theorem St.feedArm_rename (ren : Array Int) (s : St) (x : Nat) :
    (s.rename ren).feedArm x = (s.feedArm x).map (Arm.rename ren) := by
  simp only [St.feedArm, St.elseArm_rename, St.rename_arms, St.feedArm_go_rename]
  cases St.feedArm.go x (fun a => a.on.contains onElse) s.arms false <;> simp

theorem St.endArm_rename (ren : Array Int) (s : St) : (s.rename ren).endArm = s.endArm.map (Arm.rename ren) := by
  rw [St.endArm_eq_lookup, St.endArm_eq_lookup, St.lookup, St.lookup, St.elseArm_rename, St.rename_arms,
    List.find?_map, Option.map_or]
  rfl

theorem St.armOn_rename (ren : Array Int) (s : St) (x : Nat) :
    (s.rename ren).armOn x = (s.armOn x).map (Arm.rename ren) :=
  St.armOn_map (St.endArm_rename ren s) (St.feedArm_rename ren s x)

/-! ### The simulation -/

/-- `goodB` (NmfuModel/Opt.lean) as a proposition (`goodB_iff`) -/
def Good (M : Machine) (keep : Array Bool) (t : Int) : Prop :=
  t < 0 ∨ (t.toNat < M.states.size ∧ keep.getD t.toNat false = true)

/-- what the renumbered machine has to satisfy: every kept state is found, renamed, at its new index -/
structure RenOK (M M' : Machine) (ren : Array Int) (keep : Array Bool) : Prop where
  kept : ∀ t : Int, 0 ≤ t → t.toNat < M.states.size → keep.getD t.toNat false = true →
    0 ≤ renT ren t ∧ (renT ren t).toNat < M'.states.size ∧ M'.st (renT ren t).toNat = (M.st t.toNat).rename ren

/-- What `Machine.closedUnder` decides (`closedUnder_sound`): every state a kept state refers to — as a transition
    target, as the target of an out-of-space redirect, as the end of a loop a break leaves — is kept; the target of
    a transition that finishes first and cannot yield need not be (`armTree_sim_finishFirst`). -/
def RefClosed (M : Machine) (keep : Array Bool) : Prop :=
  ∀ i, i < M.states.size → keep.getD i false = true → ∀ a ∈ (M.st i).arms,
    (Good M keep a.target ∨ (a.acts.finishFirst = true ∧ a.acts.mayYield = false)) ∧ ∀ t ∈ a.acts.targets, Good M keep t

theorem goodB_iff (M : Machine) (keep : Array Bool) (t : Int) : goodB M keep t = true ↔ Good M keep t := by
  simp [goodB, Good]

theorem closedUnder_sound (M : Machine) (keep : Array Bool) (h : M.closedUnder keep = true) : RefClosed M keep := by
  simp only [Machine.closedUnder, List.all_eq_true, List.mem_range, Bool.or_eq_true, Bool.not_eq_true',
    Bool.and_eq_true, goodB_iff] at h
  exact fun i hi hk => (h i hi).resolve_left (by rw [hk]; exact Bool.noConfusion)

theorem renT_neg (ren : Array Int) (t : Int) (h : t < 0) : renT ren t = -1 := by simp [renT, h]

theorem armEpilogue_sim {ren : Array Int} {good : Int → Prop} {re re' : Int → Nat → CTree}
    (hre : ∀ h n, good h → Sim (renT ren) (re' (renT ren h) n) (re h n))
    {done fall tgt imm acc : Bool} {failT' failT : Int} {x adv' advN : Nat} (st : Int) (hst : good st) :
    Sim (renT ren) (armEpilogue done fall tgt imm acc failT' x adv' advN re' (renT ren st))
      (armEpilogue done fall tgt imm acc failT x adv' advN re st) :=
  armEpilogue_rel (fun _ _ => Sim.ret ..) (fun _ _ => Sim.ret ..) (Sim.next st) (hre st · hst)

/-- an action list that finishes first looks neither at the state it starts in nor at its continuations -/
theorem Acts.tree_sim_finishFirst (ren : Array Int) (good : Int → Prop)
    (o : SemOpts) (x adv advBase : Nat) (re re' : Int → Nat → CTree) (oc oc' : Int → CTree)
    (hre : ∀ h n, good h → Sim (renT ren) (re' (renT ren h) n) (re h n))
    (hoc : ∀ h, good h → Sim (renT ren) (oc' (renT ren h)) (oc h)) :
    ∀ (a : Acts) (st st' : Int) (kN kS kN' kS' : Int → CTree),
      a.finishFirst = true → (∀ t ∈ a.targets, good t) →
      Sim (renT ren) ((a.rename ren).tree ⟨o, x, adv, advBase, re', oc'⟩ st' kN' kS')
        (a.tree ⟨o, x, adv, advBase, re, oc⟩ st kN kS)
  | .nil, _, _, _, _, _, _, hf, _ => nomatch hf
  | .cons a r, st, st', kN, kS, kN', kS', hf, ht => by
      obtain ⟨hg, htr⟩ := List.forall_mem_append.mp ht
      have ih := fun hr => Acts.tree_sim_finishFirst ren good o x adv advBase re re' oc oc' hre hoc r st st'
        kN kS kN' kS' hr htr
      cases a with
      | finish c => cases c <;> exact Sim.ret ..
      | hook n => exact Sim.emit _ (ih hf)
      | append oos out => exact Sim.ask _ (hre oos _ (hg oos (.head _))) (Sim.emit _ (ih hf))
      | appendC oos out each e =>
        have hg := hg oos (.head _)
        exact Sim.ask _ (ite_rel (fun _ => hre oos _ hg) fun _ => hoc oos hg) (Sim.emit _ (ih hf))
      | set | setStr | delete => exact ite_rel (fun _ => ih hf) fun _ => Sim.emit _ (ih hf)
      | yield | brk | cond => nomatch hf

/-- the arm body of a transition that finishes first: where it nominally leads does not matter -/
theorem armTree_sim_finishFirst {M M' : Machine} {ren : Array Int} {keep : Array Bool}
    (o : SemOpts) (s s' : Int) (src : St) (a : Arm)
    (hf : a.acts.finishFirst = true) (hy : a.acts.mayYield = false)
    (hat : ∀ t ∈ a.acts.targets, Good M keep t) (x adv : Nat)
    (re re' : Int → Nat → CTree)
    (hre : ∀ h n, Good M keep h → Sim (renT ren) (re' (renT ren h) n) (re h n)) :
    Sim (renT ren) (M'.armTree o s' (src.rename ren) (a.rename ren) x adv re')
      (M.armTree o s src a x adv re) := by
  -- no yield, so no early advance, whatever `immediateDone` says of the two nominal targets
  simp only [Machine.armTree_eq, Machine.armAdv, Arm.rename_acts, Acts.rename_mayYield, hy, Bool.false_and,
    Arm.rename_fall, Bool.false_eq_true, if_false]
  exact Acts.tree_sim_finishFirst ren (Good M keep) o x adv adv re re' _ _ hre
    (fun h hh => ite_rel (fun _ => Sim.next ..) fun _ => hre h _ hh) a.acts _ _ _ _ _ _ hf hat

section
variable {M M' : Machine} {ren : Array Int} {keep : Array Bool} (hR : RenOK M M' ren keep)
include hR

theorem good_cases {t : Int} (h : Good M keep t) :
    (¬0 ≤ t ∧ renT ren t = -1) ∨
    (0 ≤ t ∧ t.toNat < M.states.size ∧ 0 ≤ renT ren t ∧ (renT ren t).toNat < M'.states.size ∧
      M'.st (renT ren t).toNat = (M.st t.toNat).rename ren) := by
  by_cases h0 : 0 ≤ t
  · exact h.elim (by omega) fun h => .inr ⟨h0, h.1, hR.kept t h0 h.1 h.2⟩
  · exact .inl ⟨h0, renT_neg ren t (by omega)⟩

theorem good_nonneg_iff (t : Int) (h : Good M keep t) : (0 ≤ renT ren t) ↔ (0 ≤ t) := by
  rcases good_cases hR h with ⟨h0, h1⟩ | ⟨h0, -, h1, -⟩ <;> omega

theorem isAccepting_ren (t : Int) (h : Good M keep t) : M'.isAccepting (renT ren t) = M.isAccepting t := by
  rcases good_cases hR h with ⟨h0, h1⟩ | ⟨h0, -, h1, -, h2⟩
  · simp [Machine.isAccepting, h1, h0]
  · simp [Machine.isAccepting, St.rename_accepting, h2, h1, h0]

theorem immediateDone_ren (o : SemOpts) (a : Arm) (e : Bool) (h : Good M keep a.target) :
    M'.immediateDone o (a.rename ren) e = M.immediateDone o a e := by
  simp only [Machine.immediateDone, Arm.rename_target, Arm.rename_fall, isAccepting_ren hR a.target h]
  rcases good_cases hR h with ⟨h0, h1⟩ | ⟨h0, -, h1, -, h2⟩
  · simp [h1, h0]
  · simp [St.rename_arms, Arm.rename_err, h2, h1, h0, List.all_map, Function.comp_def]

theorem armAdv_ren (o : SemOpts) (a : Arm) (h : Good M keep a.target) (x adv : Nat) :
    M'.armAdv o (a.rename ren) x adv = M.armAdv o a x adv := by
  simp only [Machine.armAdv, immediateDone_ren hR o a _ h, Arm.rename_acts, Acts.rename_mayYield, Arm.rename_fall]

theorem armTree_sim (o : SemOpts) (s : Int) (hs : Good M keep s) (src : St) (a : Arm)
    (ha : Good M keep a.target) (hat : ∀ t ∈ a.acts.targets, Good M keep t) (x adv : Nat)
    (re re' : Int → Nat → CTree)
    (hre : ∀ h n, Good M keep h → Sim (renT ren) (re' (renT ren h) n) (re h n)) :
    Sim (renT ren) (M'.armTree o (renT ren s) (src.rename ren) (a.rename ren) x adv re')
      (M.armTree o s src a x adv re) := by
  have htg : (renT ren a.target ≥ 0) = (a.target ≥ 0) := propext (good_nonneg_iff hR a.target ha)
  have hinit : (if a.target ≥ 0 then renT ren a.target else renT ren s) =
      renT ren (if a.target ≥ 0 then a.target else s) := (apply_ite (renT ren) ..).symm
  have hgi : Good M keep (if a.target ≥ 0 then a.target else s) := by
    split
    · exact ha
    · exact hs
  -- the tests the arm body makes (`armAdv`, `immediateDone`, `isAccepting`) have the same outcome in both machines
  rw [Machine.armTree_eq, Machine.armTree_eq, armAdv_ren hR o a ha, immediateDone_ren hR o a _ ha]
  simp only [Arm.rename_acts, Arm.rename_fall, Arm.rename_target, St.rename_accepting, htg, hinit]
  refine Acts.tree_sim ren (Good M keep) o x _ adv re re' _ _ hre ?_ a.acts _ _ _ _ _ hat hgi
    (armEpilogue_sim hre) ?_
  · -- out-of-space of a constant append
    exact fun h hh => ite_rel (fun _ => Sim.next ..) fun _ => hre h _ hh
  · intro st hst
    rw [isAccepting_ren hR st hst]
    exact armEpilogue_sim hre st hst

theorem dispatch_sim (hC : RefClosed M keep) (o : SemOpts) :
    ∀ (fuel : Nat) (s : Int) (x adv : Nat), Good M keep s →
      Sim (renT ren) (M'.dispatch o fuel (renT ren s) x adv) (M.dispatch o fuel s x adv) := by
  intro fuel
  induction fuel with
  | zero => intro s x adv _; exact Sim.ret ..
  | succ fuel ih =>
    intro s x adv hs
    refine dispatch_succ_rel (f := Arm.rename ren) (hask := fun q => Sim.ask q) (hret := fun _ _ => Sim.ret ..)
      (hcond := Arm.rename_cond ren) (hfail := fun _ _ => Sim.ret ..) (herr := Arm.rename_err ren) ?_ fun hin => ?_
    · rcases good_cases hR hs with ⟨h0, h1⟩ | ⟨h0, h1, h2, h3, -⟩
      · exact iff_of_true (.inl (by omega)) (.inl (by omega))
      · exact iff_of_false (by omega) (by omega)
    · rcases good_cases hR hs with ⟨h0, -⟩ | ⟨h0, h1, -, -, hst⟩
      · exact absurd (.inl (by omega)) hin
      · rw [hst]
        refine ⟨⟨rfl, rfl, rfl⟩, St.armOn_rename ren _ x, fun a ha => ?_⟩
        have hre := fun h n (hh : Good M keep h) => ih h x n hh
        obtain ⟨hg | ⟨hf, hy⟩, hat⟩ := hC s.toNat h1 (hs.resolve_left (by omega)).2 a ha
        · exact armTree_sim hR o s hs _ a hg hat x adv _ _ hre
        · exact armTree_sim_finishFirst o s _ _ a hf hy hat x adv _ _ hre

end

/-! ### The concrete renumbering (`renumber`, `Machine.removeStates` of NmfuModel/Opt.lean) -/

theorem kept_at_rank (keep : Array Bool) (n i : Nat) (h : i < n) (hk : keptB keep i = true) :
    ((List.range n).filter (keptB keep))[rank keep i]? = some i := by
  -- `range n` is `range i ++ i :: …`, and `rank keep i` is the length of what is kept of `range i`
  obtain ⟨d, rfl⟩ := Nat.exists_eq_add_of_lt h
  rw [Nat.add_assoc, List.range_add, List.filter_append, rank, List.getElem?_append_right (Nat.le_refl _),
    Nat.sub_self, List.range_succ_eq_map, List.map_cons, Nat.add_zero, List.filter_cons_of_pos hk]
  rfl

theorem renT_renumber (keep : Array Bool) (n : Nat) (t : Int) (h0 : 0 ≤ t) (h1 : t.toNat < n)
    (hk : keep.getD t.toNat false = true) : renT (renumber keep n) t = (rank keep t.toNat : Int) := by
  rw [renT, if_neg (by omega), renumber, Array.getD_eq_getD_getElem?, List.getElem?_toArray, List.getElem?_map,
    List.getElem?_range h1]
  exact if_pos hk

theorem removeStates_renOK (M : Machine) (keep : Array Bool) :
    RenOK M (M.removeStates keep) (renumber keep M.states.size) keep := by
  constructor
  intro t h0 h1 hk
  have hat := kept_at_rank keep M.states.size t.toNat h1 hk
  rw [renT_renumber keep M.states.size t h0 h1 hk]
  refine ⟨by omega, ?_, ?_⟩
  · simp only [Machine.removeStates, Int.toNat_natCast, List.size_toArray, List.length_map]
    exact (List.getElem?_eq_some_iff.mp hat).1
  · simp only [Machine.st, Machine.removeStates, Int.toNat_natCast, Array.getD_eq_getD_getElem?,
      List.getElem?_toArray, List.getElem?_map, hat, Option.map_some, Option.getD_some]

/-- **Removing states that no kept state refers to preserves behaviour, up to the renumbering.**  For every
    machine and every set `keep` of states closed under reference (`closedUnder`, decidable): from every kept
    state (and from "no state"), on every byte and on end-of-input, with any budget of non-consuming moves, the
    dispatch of the machine with the other states removed is the dispatch of the original machine with successor
    states renumbered — same events, same questions, same result codes, same cursor advances (`Sim`; the state a
    *returning* leaf mentions is not compared: the call is over and `Machine.step` ignores it). -/
theorem C05_remove_states_preserves (M : Machine) (keep : Array Bool) (hC : M.closedUnder keep = true)
    (o : SemOpts) (fuel : Nat) (s : Int) (x adv : Nat) (hs : goodB M keep s = true) :
    Sim (renT (renumber keep M.states.size))
      ((M.removeStates keep).dispatch o fuel (renT (renumber keep M.states.size) s) x adv)
      (M.dispatch o fuel s x adv) :=
  dispatch_sim (removeStates_renOK M keep) (closedUnder_sound M keep hC) o fuel s x adv ((goodB_iff M keep s).mp hs)

/-! ### Budgets: each machine's own bound on non-consuming moves -/

/-- no path of the tree ends in the move budget running out -/
def NoSpin : CTree → Prop
  | .emit _ k => NoSpin k
  | .ask _ a b => NoSpin a ∧ NoSpin b
  | .leaf (.ret c _ _) => c ≠ "SPIN"
  | .leaf _ => True

/-- `T₁` is `T₀` unless `T₀` ran out of budget somewhere -/
def Mono (T₁ T₀ : CTree) : Prop := NoSpin T₀ → T₁ = T₀

theorem Mono.refl (T : CTree) : Mono T T := fun _ => rfl
theorem Mono.emit {T₁ T₀ : CTree} (e : AEv) (h : Mono T₁ T₀) : Mono (.emit e T₁) (.emit e T₀) := by
  intro hn; simp only [NoSpin] at hn; rw [h hn]
theorem Mono.ask {A₁ A₀ B₁ B₀ : CTree} (q : Quest) (h1 : Mono A₁ A₀) (h2 : Mono B₁ B₀) :
    Mono (.ask q A₁ B₁) (.ask q A₀ B₀) := by
  intro hn; simp only [NoSpin] at hn; rw [h1 hn.1, h2 hn.2]

mutual
  theorem Act.tree_mono (o : SemOpts) (x adv advBase : Nat) (re₀ re₁ : Int → Nat → CTree) (oc₀ oc₁ : Int → CTree)
      (hre : ∀ h n, Mono (re₁ h n) (re₀ h n)) (hoc : ∀ h, Mono (oc₁ h) (oc₀ h)) :
      ∀ (a : Act) (st : Int) (kN₀ kS₀ kN₁ kS₁ : Int → CTree),
        (∀ s, Mono (kN₁ s) (kN₀ s)) → (∀ s, Mono (kS₁ s) (kS₀ s)) →
        Mono (a.tree ⟨o, x, adv, advBase, re₁, oc₁⟩ st kN₁ kS₁) (a.tree ⟨o, x, adv, advBase, re₀, oc₀⟩ st kN₀ kS₀)
    | .finish none, _, _, _, _, _, _, _ | .finish (some _), _, _, _, _, _, _, _
    | .yield _, _, _, _, _, _, _, _ => Mono.refl _
    | .hook _, st, _, _, _, _, hN, _ => Mono.emit _ (hN st)
    | .append oos _, st, _, _, _, _, hN, _ => Mono.ask _ (hre oos _) (Mono.emit _ (hN st))
    | .appendC oos _ _ _, st, _, _, _, _, hN, _ =>
        Mono.ask _ (ite_rel (fun _ => hre oos _) fun _ => hoc oos) (Mono.emit _ (hN st))
    | .set _ _, st, _, _, _, _, hN, _ | .setStr _ _, st, _, _, _, _, hN, _
    | .delete _, st, _, _, _, _, hN, _ => ite_rel (fun _ => hN st) fun _ => Mono.emit _ (hN st)
    | .brk e after, st, _, kS₀, _, kS₁, _, hS =>
        Acts.tree_mono o x adv advBase re₀ re₁ oc₀ oc₁ hre hoc after st _ kS₀ _ kS₁ (fun _ => hS e) hS
    | .cond bs, st, kN₀, kS₀, kN₁, kS₁, hN, hS =>
        Branches.tree_mono o x adv advBase re₀ re₁ oc₀ oc₁ hre hoc bs st kN₀ kS₀ kN₁ kS₁ hN hS
  theorem Acts.tree_mono (o : SemOpts) (x adv advBase : Nat) (re₀ re₁ : Int → Nat → CTree) (oc₀ oc₁ : Int → CTree)
      (hre : ∀ h n, Mono (re₁ h n) (re₀ h n)) (hoc : ∀ h, Mono (oc₁ h) (oc₀ h)) :
      ∀ (a : Acts) (st : Int) (kN₀ kS₀ kN₁ kS₁ : Int → CTree),
        (∀ s, Mono (kN₁ s) (kN₀ s)) → (∀ s, Mono (kS₁ s) (kS₀ s)) →
        Mono (a.tree ⟨o, x, adv, advBase, re₁, oc₁⟩ st kN₁ kS₁) (a.tree ⟨o, x, adv, advBase, re₀, oc₀⟩ st kN₀ kS₀)
    | .nil, st, _, _, _, _, hN, _ => hN st
    | .cons a r, st, kN₀, kS₀, kN₁, kS₁, hN, hS =>
        Act.tree_mono o x adv advBase re₀ re₁ oc₀ oc₁ hre hoc a st _ kS₀ _ kS₁
          (fun s => Acts.tree_mono o x adv advBase re₀ re₁ oc₀ oc₁ hre hoc r s kN₀ kS₀ kN₁ kS₁ hN hS) hS
  theorem Branches.tree_mono (o : SemOpts) (x adv advBase : Nat) (re₀ re₁ : Int → Nat → CTree) (oc₀ oc₁ : Int → CTree)
      (hre : ∀ h n, Mono (re₁ h n) (re₀ h n)) (hoc : ∀ h, Mono (oc₁ h) (oc₀ h)) :
      ∀ (a : Branches) (st : Int) (kN₀ kS₀ kN₁ kS₁ : Int → CTree),
        (∀ s, Mono (kN₁ s) (kN₀ s)) → (∀ s, Mono (kS₁ s) (kS₀ s)) →
        Mono (a.tree ⟨o, x, adv, advBase, re₁, oc₁⟩ st kN₁ kS₁) (a.tree ⟨o, x, adv, advBase, re₀, oc₀⟩ st kN₀ kS₀)
    | .nil, st, _, _, _, _, hN, _ => hN st
    | .cons c body rest, st, kN₀, kS₀, kN₁, kS₁, hN, hS => by
        have hb := Acts.tree_mono o x adv advBase re₀ re₁ oc₀ oc₁ hre hoc body st kN₀ kS₀ kN₁ kS₁ hN hS
        have hr := Branches.tree_mono o x adv advBase re₀ re₁ oc₀ oc₁ hre hoc rest st kN₀ kS₀ kN₁ kS₁ hN hS
        match c with
        | .else_ | .const true => exact hb
        | .const false => exact hr
        | .expr _ => exact Mono.ask _ hb hr
end

theorem armEpilogue_mono {re₀ re₁ : Int → Nat → CTree} (hre : ∀ h n, Mono (re₁ h n) (re₀ h n))
    {done fall tgt imm acc : Bool} {failT : Int} {x adv' advN : Nat} (st : Int) :
    Mono (armEpilogue done fall tgt imm acc failT x adv' advN re₁ st)
      (armEpilogue done fall tgt imm acc failT x adv' advN re₀ st) :=
  armEpilogue_rel (fun _ _ => Mono.refl _) (fun _ _ => Mono.refl _) (fun _ => Mono.refl _) (hre st)

theorem armTree_mono (M : Machine) (o : SemOpts) (si : Int) (src : St) (a : Arm) (x adv : Nat)
    (re₀ re₁ : Int → Nat → CTree) (hre : ∀ h n, Mono (re₁ h n) (re₀ h n)) :
    Mono (M.armTree o si src a x adv re₁) (M.armTree o si src a x adv re₀) := by
  rw [Machine.armTree_eq, Machine.armTree_eq]
  exact Acts.tree_mono o x _ adv re₀ re₁ _ _ hre (fun h => ite_rel (fun _ => Mono.refl _) fun _ => hre h _)
    a.acts _ _ _ _ _ (armEpilogue_mono hre) fun st => armEpilogue_mono hre st

/-- **One more move in the budget changes nothing** unless the budget had run out. -/
theorem dispatch_mono (M : Machine) (o : SemOpts) :
    ∀ (fuel : Nat) (s : Int) (x adv : Nat), Mono (M.dispatch o (fuel + 1) s x adv) (M.dispatch o fuel s x adv) := by
  intro fuel
  induction fuel with
  | zero => intro s x adv hn; simp [Machine.dispatch, NoSpin] at hn
  | succ fuel ih =>
    intro s x adv
    exact dispatch_succ_rel (f := id) (hask := fun q => Mono.ask q) (hret := fun _ _ => Mono.refl _)
      (hcond := fun _ => rfl) (hfail := fun _ _ => Mono.refl _) (herr := fun _ => rfl) (hout := Iff.rfl)
      fun _ => ⟨⟨rfl, rfl, (List.map_id _).symm⟩, Option.map_id_apply.symm,
        fun a _ => armTree_mono M o s _ a x adv _ _ fun h n => ih h x n⟩

theorem dispatch_mono_le (M : Machine) (o : SemOpts) (f : Nat) (s : Int) (x adv : Nat)
    (h : NoSpin (M.dispatch o f s x adv)) : ∀ k, M.dispatch o (f + k) s x adv = M.dispatch o f s x adv := by
  intro k
  induction k with
  | zero => rfl
  | succ k ih => rw [← Nat.add_assoc, dispatch_mono M o (f + k) s x adv (ih ▸ h), ih]

theorem removeStates_size_le (M : Machine) (keep : Array Bool) : (M.removeStates keep).states.size ≤ M.states.size := by
  simp only [Machine.removeStates, List.size_toArray, List.length_map]
  exact Nat.le_trans (List.length_filter_le _ _) (Nat.le_of_eq List.length_range)

/-- **The removal theorem at the level of one `feed` / `end()` dispatch with each machine's own budget**: if the
    smaller machine's call does not run out of its (smaller) budget on any path of its tree, it is the original machine's
    call with successor states renumbered. -/
theorem C05_remove_states_call (M : Machine) (keep : Array Bool) (hC : M.closedUnder keep = true)
    (o : SemOpts) (s : Int) (x : Nat) (hs : goodB M keep s = true)
    (hn : NoSpin ((M.removeStates keep).call o (renT (renumber keep M.states.size) s) x)) :
    Sim (renT (renumber keep M.states.size))
      ((M.removeStates keep).call o (renT (renumber keep M.states.size) s) x) (M.call o s x) := by
  obtain ⟨k, hk⟩ := Nat.exists_eq_add_of_le (show (M.removeStates keep).stepFuel ≤ M.stepFuel by
    have := removeStates_size_le M keep; simp only [Machine.stepFuel]; omega)
  -- the smaller machine's call is its dispatch with the larger budget `M.stepFuel` as well
  rw [Machine.call, Machine.call, ← dispatch_mono_le _ o _ _ x 0 hn k, ← hk]
  exact C05_remove_states_preserves M keep hC o M.stepFuel s x 0 hs

/-! ### The two passes together -/

/-- **One round of the default optimisation level**, for every machine: simplifying the else-transitions of a
    deterministic table and then removing any set of states closed under reference leaves every dispatch the same up
    to the renumbering — the two theorems compose (the harness checks that the snapshots of a compilation form such a
    chain, `pass_chains`). -/
theorem C05_O1_round_preserves (M : Machine) (hd : M.deterministic = true) (keep : Array Bool)
    (hC : M.simplifyElse.closedUnder keep = true) (o : SemOpts) (fuel : Nat) (s : Int) (x adv : Nat)
    (hs : goodB M.simplifyElse keep s = true) :
    Sim (renT (renumber keep M.simplifyElse.states.size))
      ((M.simplifyElse.removeStates keep).dispatch o fuel (renT (renumber keep M.simplifyElse.states.size) s) x adv)
      (M.dispatch o fuel s x adv) := by
  rw [← Machine.simplifyElse_dispatch M hd o fuel s x adv]
  exact C05_remove_states_preserves M.simplifyElse keep hC o fuel s x adv hs

/-! ### The hypothesis is satisfiable and the theorem is not about the identity -/

/-- three states, the middle one referred to by nobody: `0 -a-> 2`, `1 -b-> 0` (unreachable), `2` accepting -/
def removeExample : Machine :=
  { states := #[⟨.normal, false, [⟨[97], .else_, 2, false, false, .cons (.hook "h") .nil⟩]⟩,
                ⟨.normal, false, [⟨[98], .else_, 0, false, false, .nil⟩]⟩,
                ⟨.normal, true, []⟩],
    start := 0, outs := #[], startActs := .nil, hooks := ["h"], finishCodes := [], yieldCodes := [] }

example : removeExample.reachable = #[true, false, true] ∧
    removeExample.closedUnder removeExample.reachable = true ∧
    removeExample.removeInaccessible.states.size = 2 ∧
    ((removeExample.removeInaccessible.st 0).arms.map (·.target)) = [1] ∧
    renT (renumber removeExample.reachable 3) 2 = 1 := by
  decide +kernel

/-- a transition that finishes first may name a dropped state: `0 -a-> finish (nominally 1)`, state 1 dropped -/
def finishExample : Machine :=
  { states := #[⟨.normal, false, [⟨[97], .else_, 1, false, false, .cons (.finish none) .nil⟩]⟩,
                ⟨.normal, false, []⟩],
    start := 0, outs := #[], startActs := .nil, hooks := [], finishCodes := [], yieldCodes := [] }

example : finishExample.reachable = #[true, false] ∧ finishExample.closedUnder finishExample.reachable = true ∧
    ((finishExample.removeInaccessible.st 0).arms.map (·.target)) = [-1] := by
  decide +kernel

/-- … and a set that is *not* closed (state 0 kept, its target 2 dropped) is rejected by the check -/
example : removeExample.closedUnder #[true, false, false] = false := by decide +kernel

end Nmfu
