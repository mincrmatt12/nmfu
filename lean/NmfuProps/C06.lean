/-
  C06 — emitted C executes exactly the compiled state machine.

  The runtime model (`NmfuModel/Rt.lean`) executes the call-level trees of the machine
  (`Machine.call`: first matching arm in list order, else arm last, state written before the
  actions, redirects and breaks overriding it, fall-through re-dispatch, early advance, immediate
  DONE) on a typed store.  The theorems below say that this execution *is* the abstract machine
  step under the oracle the store defines — same events in the same order, same leaf (next state,
  cursor movement, return code) — for every machine, state, symbol and store.  That the real
  generated C behaves as `Rt` is established by the correspondence run in
  `harness/check_C06.py` (forced single steps from every state on every byte class and on
  end-of-input in several data contexts, plus random walks), against the compiled binary.
-/
import NmfuProps.RtBridge
import NmfuProps.DispatchRel
namespace Nmfu

/-- One emitted-code step from state `s` on symbol `x` (`feed` dispatch for a byte, `end()` for
    256) performs exactly the machine's events under the store's oracle and ends at the
    machine's leaf. -/
theorem C06_step_is_machine_step (c : RtCtx) (σ : CState) (s : Int) (x : Nat) :
    c.runTree false (c.M.call c.semOpts s x) σ =
      (c.after false σ ((c.M.call c.semOpts s x).run (c.oracle false σ) []).1,
       ((c.M.call c.semOpts s x).run (c.oracle false σ) []).2) :=
  runTree_eq_run_nil c false σ _

/-- The arm taken inside `feed` on a byte is the first non-else arm that lists the byte, whatever
    comes later in the list (first match wins), and the else arm only when none does. -/
theorem C06_first_match_wins (s : St) (x : Nat) (a : Arm) (rest : List Arm)
    (h : s.arms = a :: rest) (hx : a.on.contains x = true) (hne : a.on.contains onElse = false) :
    s.feedArm x = some a := by
  have hx' : x ∈ a.on := by simpa using hx
  have hne' : onElse ∉ a.on := by simpa using hne
  simp [St.feedArm, St.feedArm.go, h, hx', hne']

/-- `end()` uses the arm listing `End` when there is one, otherwise the else arm. -/
theorem C06_end_uses_end_arm (s : St) (a : Arm) (rest : List Arm)
    (h : s.arms = a :: rest) (hx : a.on.contains symEnd = true) :
    s.endArm = some a := by
  have hx' : symEnd ∈ a.on := by simpa using hx
  simp [St.endArm, h, hx']

/-- The call tree of a normal state of the table, with the dispatch unfolded once: the arm the symbol
    selects, DONE in front of the error handling of an accepting state, the fall out of the case
    when there is no arm.  (`2 * M.states.size + 3` is `M.stepFuel - 1`, the budget left.) -/
theorem Machine.call_normal (M : Machine) (o : SemOpts) (s x : Nat) (hs : s < M.states.size)
    (hk : (M.st s).kind = .normal) :
    M.call o s x =
      match (M.st s).armOn x with
      | some a =>
        if (M.st s).accepting && a.err then .leaf (.ret "DONE" s 0)
        else M.armTree o s (M.st s) a x 0 (fun s' adv' => M.dispatch o (2 * M.states.size + 3) s' x adv')
      | none => fallOut M.failTarget (M.st s).accepting x s 0 := by
  rw [Machine.call, Machine.stepFuel, Machine.dispatch]
  simp only [Int.toNat_natCast, show ¬ ((s : Int) < 0) by omega, show ¬ M.states.size ≤ s by omega, hk,
    decide_false, Bool.or_self, Bool.false_eq_true, if_false]
  rfl

/-- Once the accepting state is reached, a symbol that only its error handling would take is
    answered by DONE: no action runs, nothing is consumed. -/
theorem C06_accepting_ignores_error_arms (M : Machine) (o : SemOpts) (s : Nat) (x : Nat)
    (hs : s < M.states.size) (hk : (M.st s).kind = .normal) (hacc : (M.st s).accepting = true)
    (hall : ∀ a ∈ (M.st s).arms, a.err = true) :
    M.call o s x = .leaf (.ret "DONE" s 0) := by
  rw [M.call_normal o s x hs hk]
  split
  · next a harm => simp [hacc, hall a (St.armOn_mem harm)]
  · simp [fallOut, hacc]

end Nmfu
