/-
  C06, the test emitted for one transition: `condChecks` (NmfuModel/CondGen.lean) mirrors
  `CodegenCtx._generate_condition_for_transition` (range collapsing included) and is compared with the real function
  on generated value sets × collapsed-range lengths by check_C06 (`condgen`).  The theorem: the emitted disjunction is
  membership in the transition's value list, for every list, every length, flag on or off.
-/
import NmfuModel.CondGen
namespace Nmfu

theorem runsAux_covers (x : Nat) (r : List Nat) (lo len : Nat) :
    (∃ p ∈ runsAux lo len r, p.1 ≤ x ∧ x < p.1 + p.2) ↔ ((lo ≤ x ∧ x < lo + len) ∨ x ∈ r) := by
  fun_induction runsAux lo len r with
  | case1 lo len => simp
  | case2 lo len r ih => rw [ih, List.mem_cons, ← or_assoc]; exact or_congr_left (by omega)
  | case3 lo len v r hv ih =>
    simp only [List.mem_cons, exists_eq_or_imp, ih]
    exact or_congr_right (or_congr_left (by omega))

theorem runs_covers (x : Nat) (l : List Nat) : (∃ p ∈ runs l, p.1 ≤ x ∧ x < p.1 + p.2) ↔ x ∈ l := by
  cases l with
  | nil => simp [runs]
  | cons v r => rw [runs, runsAux_covers, List.mem_cons]; exact or_congr_left (by omega)

theorem runsAux_pos (r : List Nat) (lo len : Nat) (h : 0 < len) : ∀ p ∈ runsAux lo len r, 0 < p.2 := by
  fun_induction runsAux lo len r with
  | case1 lo len => simpa using h
  | case2 lo len r ih => exact ih (by omega)
  | case3 lo len v r hv ih => exact List.forall_mem_cons.mpr ⟨h, ih (by omega)⟩

theorem runs_pos (l : List Nat) : ∀ p ∈ runs l, 0 < p.2 := by
  cases l with
  | nil => simp [runs]
  | cons v r => exact runsAux_pos r v 1 (by omega)

theorem runChecks_test (L : Nat) (p : Nat × Nat) (x : Nat) (hp : 0 < p.2) :
    (runChecks L p).any (Chk.test x) = (decide (p.1 ≤ x) && decide (x < p.1 + p.2)) := by
  unfold runChecks
  split
  · simp only [List.any_cons, List.any_nil, Bool.or_false, Chk.test]
    congr 1
    simp only [decide_eq_decide]; omega
  · rw [List.any_map, Bool.eq_iff_iff]
    simp only [List.any_eq_true, List.mem_range, Function.comp, Chk.test, beq_iff_eq, Bool.and_eq_true,
      decide_eq_true_eq]
    exact ⟨fun ⟨k, hk, e⟩ => by omega, fun h => ⟨x - p.1, by omega, by omega⟩⟩

/-- **The emitted test is membership in the transition's value list** — for every list of values (sorted or not,
    duplicates or not), every collapsed-range length, the flag on or off: the disjunction of range and equality tests
    holds of a byte exactly when the transition lists it. -/
theorem C06_condition_is_membership (enabled : Bool) (L : Nat) (hasEnd : Bool) (vals : List Nat) (x : Nat) :
    condTest (condChecks enabled L hasEnd vals) x = decide (x ∈ vals) := by
  unfold condTest condChecks
  by_cases hc : (enabled && decide (vals.length + (if hasEnd then 1 else 0) ≥ L)) = true
  · -- a check of a run passes exactly on the run (`runChecks_test`), and the runs cover the sorted list
    rw [if_pos hc, List.any_flatMap, Bool.eq_iff_iff, List.any_eq_true, decide_eq_true_eq, ← List.mem_mergeSort,
        ← runs_covers x]
    refine exists_congr fun p => and_congr_right fun hp => ?_
    rw [runChecks_test L p x (runs_pos _ p hp), Bool.and_eq_true, decide_eq_true_eq, decide_eq_true_eq]
  · rw [if_neg hc, List.any_map, ← List.contains_eq_mem]
    exact List.any_beq

end Nmfu
