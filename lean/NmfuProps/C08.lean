/-
  C08 — a case statement runs exactly the clause whose pattern matched (reference side).

  The running case frame holds, for every clause pattern still alive, the derivative of the
  pattern by the bytes consumed so far.  `casePick` is the selection rule of `Src.disp` spelled
  out; the theorems say what it means in terms of the patterns' languages:

  * `C08_step_is_casePick`: one consumed symbol on a case frame with a live pattern enters the
    clause `casePick` selects, or stays in the case with the live derivatives.
  * `C08_pick_sound`: the selected clause's pattern is complete (its derivative is nullable: the
    bytes consumed are a word of the pattern, `Rx.accepts_iff`), no live pattern can continue
    (so the case keeps consuming "while any pattern can continue"), and in greedy mode no
    complete pattern has a higher priority; in non-greedy mode it is the first complete one
    (C09 shows accepted programs have only one).
  * `C08_else_only_when_nothing_matches`: the else clause / the no-match error is reached only
    when no pattern's derivative by the symbol is alive and no pattern is complete — i.e.
    (`Rx.dead_iff_no_extension`) when the input has stopped being a prefix of every pattern.
  With the equivalence certificate (C01) this transfers to the compiled machine of each program.
-/
import NmfuModel.Src
import NmfuProps.RxSound
namespace Nmfu
open Rx

/-- the live derivatives after the symbol -/
def caseAlive (x : Nat) (alts : List (Rx × Nat × Nat)) : List (Rx × Nat × Nat) :=
  (alts.map fun a => (a.1.deriv x, a.2.1, a.2.2)).filter fun a => a.1.alive

/-- highest priority first-come among a list -/
def prioPick (l : List (Rx × Nat × Nat)) : Option (Rx × Nat × Nat) :=
  l.foldl (fun best a => match best with
    | none => some a
    | some b => if a.2.1 > b.2.1 then some a else some b) none

/-- the clause entered after a consumed symbol (none: keep consuming) -/
def casePick (g : Bool) (alive : List (Rx × Nat × Nat)) : Option (Rx × Nat × Nat) :=
  let done := alive.filter fun a => a.1.nullable
  let cont := alive.any fun a => a.1.canContinue
  if cont then none else if g then prioPick done else done.head?

theorem C08_step_is_casePick (c : Src.Ctx) (fuel : Nat) (pend : List AEv) (g : Bool) (pc : PerChar)
    (alts : List (Rx × Nat × Nat)) (els : Option Nat) (rest : Kont)
    (hne : (caseAlive c.x alts).isEmpty = false) :
    Src.disp c (fuel + 1) pend (.c g pc alts els :: rest) =
      Src.flushT pend (Src.perCharTree c pc
        (match casePick g (caseAlive c.x alts) with
         | some a => .leaf (.next (.run a.2.2 0 :: rest))
         | none => .leaf (.next (.c g pc (caseAlive c.x alts) els :: rest)))
        (Src.raise c fuel [] true (.c g pc alts els :: rest))) := by
  rw [Src.disp.eq_def]
  simp only [caseAlive] at hne
  simp only [hne]
  rfl

-- (`generalizing := false`: by default the `match` would also abstract the `r` bound in front of it and no longer
-- be the `match` of `prioPick`'s fold body, which `prioPick_spec` rewrites with this equation)
theorem prioPick_step (best : Option (Rx × Nat × Nat)) (a : Rx × Nat × Nat) :
    ∃ r, (match (generalizing := false) best with
          | none => some a
          | some b => if a.2.1 > b.2.1 then some a else some b) = some r ∧
      (r = a ∨ best = some r) ∧ a.2.1 ≤ r.2.1 ∧ ∀ b, best = some b → b.2.1 ≤ r.2.1 := by
  cases best with
  | none => exact ⟨a, rfl, .inl rfl, Nat.le_refl _, fun _ h => nomatch h⟩
  | some b =>
    by_cases hgt : a.2.1 > b.2.1
    · exact ⟨a, if_pos hgt, .inl rfl, Nat.le_refl _, fun _ h => by cases h; omega⟩
    · exact ⟨b, if_neg hgt, .inr rfl, by omega, fun _ h => by cases h; omega⟩

theorem prioPick_spec (l : List (Rx × Nat × Nat)) :
    ∀ (init : Option (Rx × Nat × Nat)) (r : Rx × Nat × Nat),
      l.foldl (fun best a => match best with
        | none => some a
        | some b => if a.2.1 > b.2.1 then some a else some b) init = some r →
      (r ∈ l ∨ init = some r) ∧ (∀ a ∈ l, a.2.1 ≤ r.2.1) ∧ (∀ b, init = some b → b.2.1 ≤ r.2.1) := by
  induction l with
  | nil => intro init r h; cases h; simp
  | cons a rest ih =>
    intro init r h
    obtain ⟨c, hc, hca, hac, hbc⟩ := prioPick_step init a
    rw [List.foldl_cons, hc] at h
    obtain ⟨hm, hmax, hinit⟩ := ih _ r h
    have hcr := hinit c rfl
    refine ⟨?_, ?_, fun b hb => Nat.le_trans (hbc b hb) hcr⟩
    · rcases hm with hm | hm
      · exact .inl (List.mem_cons_of_mem _ hm)
      · cases hm
        exact hca.imp (fun (h : r = a) => h ▸ List.mem_cons_self ..) id
    · intro a' ha'
      rcases List.mem_cons.1 ha' with rfl | ha'
      · exact Nat.le_trans hac hcr
      · exact hmax a' ha'

theorem prioPick_some {l : List (Rx × Nat × Nat)} {a : Rx × Nat × Nat} (h : prioPick l = some a) :
    a ∈ l ∧ ∀ b ∈ l, b.2.1 ≤ a.2.1 :=
  have ⟨hm, hmax, _⟩ := prioPick_spec l none a h
  ⟨hm.resolve_right nofun, hmax⟩

/-- **What the selected clause is.** -/
theorem C08_pick_sound (g : Bool) (alive : List (Rx × Nat × Nat)) (a : Rx × Nat × Nat)
    (h : casePick g alive = some a) :
    a ∈ alive ∧ a.1.nullable = true ∧ (∀ b ∈ alive, b.1.canContinue = false) ∧
    (g = true → ∀ b ∈ alive, b.1.nullable = true → b.2.1 ≤ a.2.1) ∧
    (g = false → (alive.filter fun b => b.1.nullable).head? = some a) := by
  simp only [casePick] at h
  split at h
  · cases h
  next hcont =>
  have hmem : a ∈ alive.filter fun b => b.1.nullable := by
    split at h
    · exact (prioPick_some h).1
    · exact List.mem_of_mem_head? h
  obtain ⟨ha, han⟩ := List.mem_filter.1 hmem
  refine ⟨ha, han, by simpa using hcont, fun hg b hb hbn => ?_, fun hg => ?_⟩
  · rw [if_pos hg] at h
    exact (prioPick_some h).2 b (List.mem_filter.2 ⟨hb, hbn⟩)
  · simpa [hg] using h

/-- In language terms: the live derivative of a pattern `r` after the consumed word `w` and the
    symbol `x` being nullable means `w ++ [x]` is a word of `r`. -/
theorem C08_complete_means_word (r : Rx) (w : List Nat) (x : Nat) :
    ((r.derivs w).deriv x).nullable = true ↔ Lang r (w ++ [x]) := by
  rw [derivs_snoc, derivs_nullable_iff]

/-- The else clause (or the no-match error) is reached only when nothing is alive after the symbol
    and no pattern is complete before it. -/
theorem C08_else_only_when_nothing_matches (c : Src.Ctx) (fuel : Nat) (pend : List AEv) (g : Bool)
    (pc : PerChar) (alts : List (Rx × Nat × Nat)) (els : Option Nat) (rest : Kont)
    (hdead : (caseAlive c.x alts).isEmpty = true)
    (hnone : (alts.filter fun a => a.1.nullable) = []) :
    Src.disp c (fuel + 1) pend (.c g pc alts els :: rest) =
      (match els with
       | some b => Src.disp c fuel pend (.run b 0 :: rest)
       | none => Src.raise c fuel pend false rest) := by
  rw [Src.disp.eq_def]
  simp only [caseAlive] at hdead
  simp only [hdead, hnone]
  cases g <;> rfl

/-- Nothing alive after `x` for pattern `r` with consumed word `w`: no word of `r` extends
    `w ++ [x]`. -/
theorem C08_dead_means_no_extension (r : Rx) (w : List Nat) (x : Nat) :
    ((r.derivs w).deriv x).alive = false ↔ ¬ ∃ v, Lang r (w ++ [x] ++ v) := by
  rw [derivs_snoc]; exact dead_iff_no_extension r (w ++ [x])

/-! ### The match frame (C07 / C15 on the reference side): consume while a word of the pattern is
    still reachable, finish exactly at a word of the pattern, fail at the first dead byte. -/

/-- A symbol that keeps some word of the pattern reachable is consumed; the match is over at once
    when the word read is complete and nothing can follow it. -/
theorem C07_match_consumes (c : Src.Ctx) (fuel : Nat) (pend : List AEv) (r : Rx) (pc : PerChar) (rest : Kont)
    (h : (r.deriv c.x).alive = true) :
    Src.disp c (fuel + 1) pend (.m r pc :: rest) =
      Src.flushT pend (Src.perCharTree c pc
        (if (r.deriv c.x).nullable && !(r.deriv c.x).canContinue then .leaf (.next rest)
         else .leaf (.next (.m (r.deriv c.x) pc :: rest)))
        (Src.raise c fuel [] true (.m r pc :: rest))) := by
  rw [Src.disp, if_pos h]

/-- A symbol that no word of the pattern continues ends the match by look-ahead when what was read
    is a word of the pattern: the symbol goes to what follows. -/
theorem C07_match_lookahead_end (c : Src.Ctx) (fuel : Nat) (pend : List AEv) (r : Rx) (pc : PerChar) (rest : Kont)
    (h : (r.deriv c.x).alive = false) (hn : r.nullable = true) :
    Src.disp c (fuel + 1) pend (.m r pc :: rest) = Src.disp c fuel pend (Src.afterSkip c rest).2 := by
  rw [Src.disp, h, hn]; rfl

/-- … and is a mismatch, raised with the symbol unconsumed, when what was read is not a word of
    the pattern: exactly the first byte after which no word of the pattern is reachable
    (`Rx.dead_iff_no_extension`). -/
theorem C07_match_mismatch (c : Src.Ctx) (fuel : Nat) (pend : List AEv) (r : Rx) (pc : PerChar) (rest : Kont)
    (h : (r.deriv c.x).alive = false) (hn : r.nullable = false) :
    Src.disp c (fuel + 1) pend (.m r pc :: rest) = Src.raise c fuel pend false rest := by
  rw [Src.disp, h, hn]; rfl

end Nmfu
