/-
  C09 — acceptance implies one-byte-lookahead unambiguity.

  The decision is made on the reference semantics (NmfuModel/Ambig.lean) for each program the real
  compiler accepts.  This file shows that the decision means what the property says:
  the `…_exact` theorems translate a rule into the patterns' languages (for a case: a complete
  pattern beside a live one, after `w`, is a word of one clause pattern that is a prefix of a word of
  another — so a case whose running frames never show it has pairwise disjoint, mutually
  prefix-free clause languages, and conversely); the `…_rule` / `…_iff` theorems say that the
  executable rule on a frame is that statement; `C09_no_ambiguity_on_any_input` carries a passing
  certificate check to every input.
-/
import NmfuModel.Ambig
import NmfuProps.RxSound
namespace Nmfu
open Rx

/-- **The case rule is exact**: a complete pattern next to another live pattern, after `w`, is a
    word of one clause pattern that is also a prefix of a word of another. -/
theorem C09_case_rule_exact (rs : List Rx) (w : List Nat) :
    (∃ (i j : Nat) (a b : Rx), i ≠ j ∧ rs[i]? = some a ∧ rs[j]? = some b ∧
        (a.derivs w).nullable = true ∧ (b.derivs w).alive = true) ↔
    (∃ (i j : Nat) (a b : Rx), i ≠ j ∧ rs[i]? = some a ∧ rs[j]? = some b ∧ Lang a w ∧ ∃ v, Lang b (w ++ v)) := by
  simp only [derivs_nullable_iff, derivs_alive_iff]

/-- The executable rule on the list of live derivatives. -/
theorem C09_caseConflict_iff (l : List (Rx × Nat × Nat)) :
    Src.caseConflict l = true ↔
      ∃ (i j : Nat) (a b : Rx × Nat × Nat), i ≠ j ∧ l[i]? = some a ∧ l[j]? = some b ∧ a.1.nullable = true := by
  simp only [Src.caseConflict, Bool.and_eq_true, decide_eq_true_eq, List.any_eq_true]
  constructor
  · rintro ⟨hlen, a, ha, hn⟩
    obtain ⟨i, hi, rfl⟩ := List.mem_iff_getElem.1 ha
    -- any other index will do for `j`
    obtain ⟨j, hj, hij⟩ : ∃ j, j < l.length ∧ i ≠ j := ⟨if i = 0 then 1 else 0, by split <;> omega⟩
    exact ⟨i, j, _, _, hij, List.getElem?_eq_getElem hi, List.getElem?_eq_getElem hj, hn⟩
  · rintro ⟨i, j, a, b, hij, ha, hb, hn⟩
    have hi := (List.getElem?_eq_some_iff.1 ha).1
    have hj := (List.getElem?_eq_some_iff.1 hb).1
    exact ⟨by omega, a, List.mem_of_getElem? ha, hn⟩

/-- A non-greedy case frame that is not flagged on a symbol has, after the symbol, no complete
    pattern next to another live one. -/
theorem C09_case_frame_rule (c : Src.Ctx) (fuel : Nat) (pc : PerChar) (alts : List (Rx × Nat × Nat))
    (els : Option Nat) (rest : Kont)
    (h : Src.ambig c (fuel + 1) (.c false pc alts els :: rest) = none) :
    Src.caseConflict ((alts.map fun a => (a.1.deriv c.x, a.2.1, a.2.2)).filter fun a => a.1.alive) = false := by
  rw [Src.ambig.eq_def] at h
  simp only [] at h
  generalize ((alts.map fun a => (a.1.deriv c.x, a.2.1, a.2.2)).filter fun a => a.1.alive) = l at h ⊢
  -- with no live pattern there is no conflict; with one, `ambig` tests the conflict first
  cases l with
  | nil => rfl
  | cons a l =>
    cases hc : Src.caseConflict (a :: l) with
    | false => rfl
    | true => simp [hc] at h

/-- **The look-ahead rule is exact**: complete after `w` and continued by `x` means `w` is a member
    and `w` followed by `x` is a prefix of another member. -/
theorem C09_lookahead_rule_exact (r : Rx) (w : List Nat) (x : Nat) :
    ((r.derivs w).nullable = true ∧ ((r.derivs w).deriv x).alive = true) ↔
    (Lang r w ∧ ∃ v, Lang r (w ++ x :: v)) := by
  rw [derivs_snoc, derivs_nullable_iff, derivs_alive_iff]
  simp

/-- A match frame that is not flagged never has: pattern complete, the symbol continues it, and
    the symbol starts what follows. -/
theorem C09_match_frame_rule (c : Src.Ctx) (fuel : Nat) (r : Rx) (pc : PerChar) (rest : Kont)
    (h : Src.ambig c (fuel + 1) (.m r pc :: rest) = none) :
    ¬ (r.nullable = true ∧ (r.deriv c.x).alive = true ∧ Src.starts c fuel rest = true) := by
  rintro ⟨hn, ha, hs⟩
  simp [Src.ambig, ha, hn, hs] at h

/-! ### Every input -/

/-- configurations reachable on a word (any outcome of the data tests at every step) -/
inductive SrcReach (p : Prog) (o : SemOpts) : List Nat → Kont → Prop where
  | start : SrcReach p o [] [.run p.main 0]
  | step {w K x K'} : SrcReach p o w K → K' ∈ Src.succs p o K x → SrcReach p o (w ++ [x]) K'

/-- **When the certificate check passes, no input reaches an ambiguous decision point**: for every
    word over bytes and end-of-input, every configuration reached, and every next symbol. -/
theorem C09_no_ambiguity_on_any_input (p : Prog) (o : SemOpts) (V : List Kont)
    (h : Src.ambigCertOK p o V = true) (w : List Nat) (hw : ∀ x ∈ w, x < nSym) (K : Kont)
    (hr : SrcReach p o w K) (x : Nat) (hx : x < nSym) :
    Src.ambig { p := p, o := o, x := x, lp := false } (Src.stepFuel p) K = none := by
  simp only [Src.ambigCertOK, Bool.and_eq_true, List.all_eq_true, List.mem_range,
    List.contains_iff_mem] at h
  have hmem : K ∈ V := by
    induction hr with
    | start => exact h.1
    | @step w K x K' _ hk ih =>
      obtain ⟨hwx, hxs⟩ := List.forall_mem_append.mp hw
      exact ((h.2 K (ih hwx)) x (hxs x (List.mem_singleton_self x))).2 K' hk
  have := ((h.2 K hmem) x hx).1
  simpa [Option.isNone_iff_eq_none] using this

/-- Non-vacuity: a two-statement program whose first statement is ended by look-ahead with a
    disjoint follower passes, an overlapping follower is flagged. -/
def exClean : Prog := { blocks := #[[.mtch (.seq (.cls [97]) (.star (.cls [98]))) {}, .mtch (.cls [99]) {}]], main := 0 }
def exAmbig : Prog := { blocks := #[[.mtch (.seq (.cls [97]) (.star (.cls [98]))) {}, .mtch (.cls [98]) {}]], main := 0 }

example : (Src.ambig { p := exClean, o := {}, x := 98, lp := false } (Src.stepFuel exClean)
    [.m (.star (.cls [98])) {}, .run 0 1]).isNone = true := by decide +kernel
example : (Src.ambig { p := exAmbig, o := {}, x := 98, lp := false } (Src.stepFuel exAmbig)
    [.m (.star (.cls [98])) {}, .run 0 1]).isSome = true := by decide +kernel

end Nmfu
