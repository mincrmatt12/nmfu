/-
  C10 — result codes and the start pointer follow the documented protocol (on the runtime model,
  for every machine).

  The theorems speak of three forms of one call: `feedL` (the fold over the bytes, C02), `feedFrom`
  (the emitted loop with its cursor; it is `feedL` by `feedFrom_eq_feedL`) and `feed` (the API
  call: the empty-chunk answer, or `feedFrom` on what is left of the chunk).  C10Final and
  C12Storage state their theorems on the sessions defined here (`ApiOp`, `runOps`, `session`).
  What the protocol says about *which* call reports DONE/FAIL and where the cursor then points is
  evaluated on the compiled binary (harness/check_C10.py): against the model, and against the
  one-byte-per-call run of the same binary, which names the offending / last byte independently.
-/
import NmfuProps.C02
import NmfuProps.Store
namespace Nmfu

/-- No dispatch returns OK from the middle of a chunk (implied by `leavesOK`). -/
def RtCtx.NoStuck (c : RtCtx) : Prop :=
  ∀ (σ : CState) (b : Nat), b < nSym → ∀ st adv,
    (c.runTree false (c.M.call c.semOpts σ.state b) σ).2 ≠ .ret "OK" st adv

/-- **OK means the whole chunk was consumed.** -/
theorem C10_ok_consumes_chunk (c : RtCtx) (hok : c.StepsOK) (hns : c.NoStuck)
    (rest : List Nat) (σ : CState) (pos fuel : Nat) (hne : rest ≠ []) (hf : rest.length < fuel)
    (hb : ∀ b ∈ rest, b < nSym) (h : (c.feedFrom fuel σ rest pos).2.1 = "OK") :
    (c.feedFrom fuel σ rest pos).2.2 = pos + rest.length := by
  rw [feedFrom_eq_feedL c hok rest σ pos fuel hne hf hb] at h ⊢
  cases hr : c.feedL σ rest pos with
  | exhausted σ' p =>
    exact feedL_exhausted_pos hr
  | returned σ' code p =>
    rw [hr] at h
    simp only [FeedRes.toTriple] at h
    exact absurd (h ▸ hr) (feedL_code_ne c "OK" (by decide) hns rest σ σ' pos p hb)

theorem noStuck_of_leavesOK (c : RtCtx) (h : c.M.leavesOK c.semOpts = true) : c.NoStuck :=
  fun σ b hb => (leaf_of_leavesOK c h σ b hb).2

/-- The reported cursor stays inside the chunk and never moves backwards. -/
theorem C10_cursor_within_chunk (c : RtCtx) (hok : c.StepsOK)
    (rest : List Nat) (σ : CState) (pos fuel : Nat) (hne : rest ≠ []) (hf : rest.length < fuel)
    (hb : ∀ b ∈ rest, b < nSym) :
    pos ≤ (c.feedFrom fuel σ rest pos).2.2 ∧ (c.feedFrom fuel σ rest pos).2.2 ≤ pos + rest.length := by
  rw [feedFrom_eq_feedL c hok rest σ pos fuel hne hf hb]
  cases hr : c.feedL σ rest pos with
  | exhausted σ' p =>
    have := feedL_exhausted_pos hr
    simp only [FeedRes.toTriple]; omega
  | returned σ' code p =>
    have := feedL_returned_pos hr
    simp only [FeedRes.toTriple]; omega

/-- **FAIL is absorbing**: in the failure state every feed call returns FAIL at once — nothing is
    consumed, no action runs, the state struct is unchanged — and so does `end`. -/
theorem C10_fail_absorbing (c : RtCtx) (σ : CState) (h : c.M.failLike σ.state) :
    (∀ b rest pos, c.feedL σ (b :: rest) pos = .returned σ "FAIL" pos) ∧
    c.endCall σ = (σ, "FAIL") := by
  constructor
  · intro b rest pos
    simp [RtCtx.feedL, call_failLike c.M c.semOpts σ.state b h, RtCtx.runTree]
  · simp [RtCtx.endCall, call_failLike c.M c.semOpts σ.state symEnd h, RtCtx.runTree]

/-- … and an empty chunk, where the feed function answers before looking at any byte, is answered
    FAIL too once the parser has failed (and OK otherwise, changing nothing). -/
theorem C10_fail_absorbing_empty_chunk (c : RtCtx) (σ : CState) (chunk : List Nat) (pos : Nat)
    (hchk : c.needsEndCheck = true) (hempty : chunk.drop pos = []) :
    c.feed σ chunk pos = (σ, if c.emptyFails σ.state then "FAIL" else "OK", pos) := by
  simp [RtCtx.feed, hchk, hempty]

/-! ### Invariant rules for `feed` and `end()`

  `LeafPost J R` is what one call has to guarantee; the rules carry it through the loop of `feed`
  and through `end()`, so that a protocol property is one statement about the leaves of call
  trees, read off a per-machine check with `RtCtx.call_leaf`. -/

/-- What the leaf of a call must satisfy for `J` to hold of every state a session goes on in and
    `R code` of every state a call hands back with `code`.  (The rules ask for `R` separately at the
    codes the drivers produce themselves: OK at chunk end, SPIN out of fuel, WEIRD for `.next` in `end()`.) -/
def LeafPost (J : Int → Prop) (R : String → Int → Prop) : MLeaf → Prop
  | .next s _ => J s
  | .ret code s _ => R code s
  | .yielded code s _ => R ("YIELD_" ++ code) s

theorem feedFrom_rule (c : RtCtx) {J : Int → Prop} {R : String → Int → Prop} {n : Nat}
    (hquiet : ∀ s, J s → R "OK" s ∧ R "SPIN" s)
    (hcall : ∀ σ b, b < n → J σ.state →
      LeafPost J R (c.runTree false (c.M.call c.semOpts σ.state b) σ).2) :
    ∀ (fuel : Nat) (σ : CState) (rest : List Nat) (pos : Nat), (∀ b ∈ rest, b < n) → J σ.state →
      R (c.feedFrom fuel σ rest pos).2.1 (c.feedFrom fuel σ rest pos).1.state := by
  intro fuel
  induction fuel with
  | zero => intro σ rest pos _ h; simpa [RtCtx.feedFrom, addFault_state] using (hquiet _ h).2
  | succ fuel ih =>
    intro σ rest pos hb h
    cases rest with
    | nil => simpa [RtCtx.feedFrom, addFault_state] using (hquiet _ h).1
    | cons b rest' =>
      have hl := hcall σ b (hb b List.mem_cons_self) h
      simp only [RtCtx.feedFrom]
      generalize c.runTree false (c.M.call c.semOpts σ.state b) σ = r at hl
      obtain ⟨σ', l⟩ := r
      cases l with
      | next s adv =>
        simp only [LeafPost] at hl ⊢
        split
        · split <;> simpa [addFault_state] using (hquiet _ hl).1
        · exact ih _ _ _ (fun y hy => hb y (List.mem_of_mem_drop hy)) hl
      | ret code st adv | yielded code st adv => exact hl

theorem feed_rule (c : RtCtx) {J : Int → Prop} {R : String → Int → Prop} {n : Nat}
    (hquiet : ∀ s, J s → R "OK" s ∧ R "SPIN" s)
    (hempty : ∀ s, J s → c.emptyFails s = true → R "FAIL" s)
    (hcall : ∀ σ b, b < n → J σ.state →
      LeafPost J R (c.runTree false (c.M.call c.semOpts σ.state b) σ).2)
    (σ : CState) (chunk : List Nat) (pos : Nat) (hb : ∀ b ∈ chunk, b < n) (h : J σ.state) :
    R (c.feed σ chunk pos).2.1 (c.feed σ chunk pos).1.state := by
  simp only [RtCtx.feed]
  split
  · cases he : c.emptyFails σ.state with
    | true => exact hempty _ h he
    | false => exact (hquiet _ h).1
  · exact feedFrom_rule c hquiet hcall _ σ _ pos (fun b hbm => hb b (List.mem_of_mem_drop hbm)) h

theorem endCall_rule (c : RtCtx) {J : Int → Prop} {R : String → Int → Prop} (σ : CState)
    (hl : LeafPost J R (c.runTree false (c.M.call c.semOpts σ.state symEnd) σ).2)
    (hw : ∀ s, J s → R "WEIRD" s) : R (c.endCall σ).2 (c.endCall σ).1.state := by
  simp only [RtCtx.endCall]
  generalize c.runTree false (c.M.call c.semOpts σ.state symEnd) σ = r at hl
  obtain ⟨σ', l⟩ := r
  cases l with
  | next s adv => exact hw s hl
  | ret code st adv | yielded code st adv => exact hl

theorem endCall_fail (c : RtCtx) (σ : CState) {Q : Int → Prop}
    (hl : ∀ st adv, (c.runTree false (c.M.call c.semOpts σ.state symEnd) σ).2 = .ret "FAIL" st adv → Q st)
    (h : (c.endCall σ).2 = "FAIL") : Q (c.endCall σ).1.state := by
  refine endCall_rule c (J := fun _ => True) (R := fun code s => code = "FAIL" → Q s) σ ?_
    (fun _ _ e => absurd e (by decide)) h
  cases hr : (c.runTree false (c.M.call c.semOpts σ.state symEnd) σ).2 with
  | next s adv => trivial
  | ret code st adv => rintro rfl; exact hl st adv hr
  | yielded code st adv => exact fun e => absurd e (yield_ne code _ (by decide))

/-! ### A FAIL reported by `end()` -/

/-- **A FAIL reported by `end()` is final too**: for a machine passing the decidable check
    `endFailOK` (evaluated on every exported machine), when `end()` answers FAIL it leaves the state
    struct in a state from which every later `feed` and `end` call answers FAIL
    (`C10_fail_absorbing`). -/
theorem C10_end_fail_is_final (c : RtCtx) (hok : c.M.endFailOK c.semOpts = true) (σ : CState)
    (h : (c.endCall σ).2 = "FAIL") : c.M.failLike (c.endCall σ).1.state := by
  simp only [Machine.endFailOK, List.all_eq_true, List.mem_range] at hok
  refine endCall_fail c σ (c.call_leaf symEnd (P := fun _ l => ∀ st adv, l = .ret "FAIL" st adv → c.M.failLike st)
    (fun s hs p hp st adv hl => ?_) (fun s hs st adv hl => ?_) σ) h
  · have := hok s hs p hp
    rw [hl] at this
    simp only [bne_self_eq_false, Bool.false_or, Bool.or_eq_true, decide_eq_true_eq, beq_iff_eq] at this
    exact or_assoc.1 this
  · cases hl; exact failLike_of_not_inTable c.M s hs

theorem Machine.failTarget_cases (M : Machine) :
    (M.failIdx = none ∧ M.failTarget = M.states.size) ∨
    ∃ i : Nat, i < M.states.size ∧ M.failIdx = some (i : Int) ∧ M.failTarget = i ∧ (M.st i).kind = .fail := by
  unfold Machine.failTarget Machine.failIdx
  cases hf : (List.range M.states.size).find? (fun i => (M.states.getD i default).kind == .fail) with
  | none => exact .inl ⟨rfl, rfl⟩
  | some i =>
    exact .inr ⟨i, List.mem_range.1 (List.mem_of_find?_eq_some hf), rfl, rfl,
      by simpa [Machine.st] using List.find?_some hf⟩

/-- the index `failTarget` is one the empty-chunk test of `feed` answers FAIL for (parsers with `end()`) -/
theorem emptyFails_failTarget (c : RtCtx) (heof : c.ro.eof = true) : c.emptyFails c.M.failTarget = true := by
  rcases c.M.failTarget_cases with ⟨h1, h2⟩ | ⟨i, hi, _, h2, hk⟩
  · simp [RtCtx.emptyFails, h1, h2, heof]
  · simp [RtCtx.emptyFails, Machine.isFailState, h2, hi, hk]

/-- **… also for an empty chunk**: for a machine passing the decidable check `endFailExact`
    (evaluated on every exported machine), once `end()` has answered FAIL from a state of the table,
    a `feed` call with an empty chunk — which answers before looking at any byte — says FAIL too,
    whether or not the table still has a fail state. -/
theorem C10_end_fail_then_empty_chunk (c : RtCtx) (hex : c.M.endFailExact c.semOpts = true)
    (heof : c.ro.eof = true) (hchk : c.needsEndCheck = true) (σ : CState)
    (hin : 0 ≤ σ.state ∧ σ.state.toNat < c.M.states.size)
    (h : (c.endCall σ).2 = "FAIL") (chunk : List Nat) (pos : Nat) (hempty : chunk.drop pos = []) :
    (c.feed (c.endCall σ).1 chunk pos).2.1 = "FAIL" := by
  simp only [Machine.endFailExact, List.all_eq_true, List.mem_range] at hex
  have hst : (c.endCall σ).1.state = c.M.failTarget := by
    refine endCall_fail c σ (c.call_leaf symEnd
      (P := fun s l => c.M.inTable s = true → ∀ st adv, l = .ret "FAIL" st adv → st = c.M.failTarget)
      (fun s hs p hp _ st adv hl => ?_) (fun s hs h => ?_) σ ?_) h
    · -- a state of the table: what the check says of its leaves
      simpa [hl] using hex s hs p hp
    · rw [hs] at h; cases h
    · exact (c.M.inTable_iff _).2 hin
  rw [C10_fail_absorbing_empty_chunk c _ chunk pos hchk hempty, hst, emptyFails_failTarget c heof]
  rfl

/-- **Yield resumption is exact**: cutting the input anywhere and running the two parts one after
    the other gives the session of the whole — the re-invocations after yields included. -/
theorem C10_yield_resume_exact (c : RtCtx) (fuel : Nat) (σ : CState) (c1 c2 : List Nat) (off : Nat) :
    c.runAll fuel σ (c1 ++ c2) off = c.runChunks fuel σ [c1, c2] off := by
  rw [C02_chunk_independent]
  simp

/-! ### Sessions: any sequence of API calls -/

inductive ApiOp where
  /-- `feed(chunk, chunk + pos .. end)`: `pos > 0` is the re-invocation after a yield code -/
  | feed (chunk : List Nat) (pos : Nat)
  | endInput

def ApiOp.bytesOK : ApiOp → Prop
  | .feed chunk _ => ∀ b ∈ chunk, b < nSym
  | .endInput => True

def RtCtx.apiStep (c : RtCtx) (σ : CState) : ApiOp → CState × String × Nat
  | .feed ch pos => c.feed σ ch pos
  | .endInput => ((c.endCall σ).1, (c.endCall σ).2, 0)

/-- the calls after `start()`: final store and the (code, cursor) each call returned -/
def RtCtx.runOps (c : RtCtx) : CState → List ApiOp → CState × List (String × Nat)
  | σ, [] => (σ, [])
  | σ, op :: rest => ((c.runOps (c.apiStep σ op).1 rest).1, (c.apiStep σ op).2 :: (c.runOps (c.apiStep σ op).1 rest).2)

def RtCtx.session (c : RtCtx) (σ0 : CState) (ops : List ApiOp) : CState × List (String × Nat) :=
  ((c.runOps (c.start σ0).1 ops).1, ((c.start σ0).2, 0) :: (c.runOps (c.start σ0).1 ops).2)

theorem runOps_rule (c : RtCtx) {J : Int → Prop} {R : String → Prop} {ok : ApiOp → Prop}
    (hstep : ∀ σ op, ok op → J σ.state → J (c.apiStep σ op).1.state ∧ R (c.apiStep σ op).2.1) :
    ∀ (ops : List ApiOp) (σ : CState), (∀ op ∈ ops, ok op) → J σ.state →
      J (c.runOps σ ops).1.state ∧ ∀ r ∈ (c.runOps σ ops).2, R r.1 := by
  intro ops
  induction ops with
  | nil => intro σ _ h; exact ⟨h, fun _ hr => nomatch hr⟩
  | cons op rest ih =>
    intro σ hok h
    obtain ⟨hop, hrest⟩ := List.forall_mem_cons.mp hok
    obtain ⟨h1, h2⟩ := hstep σ op hop h
    obtain ⟨k1, k2⟩ := ih _ hrest h1
    exact ⟨k1, List.forall_mem_cons.mpr ⟨h2, k2⟩⟩

end Nmfu
