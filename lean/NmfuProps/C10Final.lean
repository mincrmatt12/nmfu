/-
  C10, "once FAIL has been returned every later feed or end call returns FAIL", as one theorem
  about sequences of API calls on the runtime model.

  Hypotheses are two decidable facts about the machine (`Machine.failClosed`, and that the
  empty-chunk test of `feed` names `failTarget`), both evaluated on every exported machine by the
  harness (`wf`); `C10_session_fail_is_final` adds `startClosed`, and the part on parsers that
  cannot fail has hypotheses of its own.
-/
import NmfuProps.C10
namespace Nmfu

/-- the states a session can be in: a state of the table, or where a FAIL leaves the struct -/
def RtCtx.Good (c : RtCtx) (s : Int) : Prop := c.M.inTable s = true ∨ s = c.M.failTarget

/-- a failed parser: both switches answer FAIL at once, and so does the empty-chunk test -/
def RtCtx.Failed (c : RtCtx) (s : Int) : Prop := c.M.failLike s ∧ c.emptyFails s = true

/-- calls whose behaviour nmfu defines: an empty chunk only for parsers whose `feed` tests for it -/
def ApiOp.defined (c : RtCtx) : ApiOp → Prop
  | .feed chunk pos => chunk.drop pos ≠ [] ∨ c.needsEndCheck = true
  | .endInput => True

theorem failLike_failTarget (M : Machine) : M.failLike M.failTarget := by
  rcases M.failTarget_cases with ⟨_, h2⟩ | ⟨i, _, _, h2, hk⟩
  · exact .inr (.inl (by rw [h2]; simp))
  · exact .inr (.inr (by rw [h2]; simpa using hk))

theorem failLike_of_emptyFails (c : RtCtx) (s : Int) (h : c.emptyFails s = true) : c.M.failLike s := by
  simp only [RtCtx.emptyFails, Machine.isFailState, Bool.or_eq_true, Bool.and_eq_true, beq_iff_eq,
    decide_eq_true_eq] at h
  rcases h with h | h
  · exact Or.inr (Or.inr h.2)
  · exact Or.inr (Or.inl (by rw [h.2]; simp))

/-- what `failClosed` says of the leaf a call reaches from a good state: the session stays in good
    states, and a FAIL leaves a failed parser -/
theorem leaf_of_failClosed (c : RtCtx) (hcl : c.M.failClosed c.semOpts = true)
    (hempty : c.emptyFails c.M.failTarget = true) (σ : CState) (hg : c.Good σ.state) (x : Nat)
    (hx : x < nSym) :
    LeafPost c.Good (fun code s => c.Good s ∧ (code = "FAIL" → c.Failed s))
      (c.runTree false (c.M.call c.semOpts σ.state x) σ).2 := by
  have hft : c.Good c.M.failTarget ∧ c.Failed c.M.failTarget :=
    ⟨Or.inr rfl, failLike_failTarget c.M, hempty⟩
  simp only [Machine.failClosed, List.all_eq_true, List.mem_range] at hcl
  refine c.call_leaf x (P := fun s l => c.Good s → LeafPost _ _ l) (fun s hs p hp _ => ?_)
    (fun s hs hg => ?_) σ hg
  · have := hcl s hs x hx p hp
    generalize p.2 = l at this ⊢
    cases l with
    | next st adv => exact Or.inl this
    | yielded code st adv => exact ⟨Or.inl this, fun e => absurd e (yield_ne code _ (by decide))⟩
    | ret code st adv =>
      by_cases hc : code = "FAIL"
      · have : st = c.M.failTarget := by simpa [hc] using this
        exact this ▸ ⟨hft.1, fun _ => hft.2⟩
      · exact ⟨Or.inl (by simpa [hc] using this), fun e => absurd e hc⟩
  · -- outside the table the one good index is `failTarget`, and the `default:` case says FAIL
    have : s = c.M.failTarget := hg.resolve_left (by simp [hs])
    exact this ▸ ⟨hft.1, fun _ => hft.2⟩

theorem apiStep_good (c : RtCtx) (hcl : c.M.failClosed c.semOpts = true)
    (hempty : c.emptyFails c.M.failTarget = true) (σ : CState) (op : ApiOp) (hb : op.bytesOK)
    (hg : c.Good σ.state) :
    c.Good (c.apiStep σ op).1.state ∧ ((c.apiStep σ op).2.1 = "FAIL" → c.Failed (c.apiStep σ op).1.state) := by
  -- the rules with `J := Good` and `R code s := Good s ∧ (code = "FAIL" → Failed s)`, as in `leaf_of_failClosed`;
  -- a code other than FAIL (OK, SPIN, WEIRD) only has to keep the state good
  have hquiet : ∀ s code, code ≠ "FAIL" → c.Good s → c.Good s ∧ (code = "FAIL" → c.Failed s) :=
    fun s code hc hg => ⟨hg, fun e => absurd e hc⟩
  cases op with
  | feed chunk pos =>
    exact feed_rule c (fun s hg => ⟨hquiet s "OK" (by decide) hg, hquiet s "SPIN" (by decide) hg⟩)
      (fun s hg he => ⟨hg, fun _ => ⟨failLike_of_emptyFails c s he, he⟩⟩)
      (fun σ b hb hg => leaf_of_failClosed c hcl hempty σ hg b hb) σ chunk pos hb hg
  | endInput =>
    exact endCall_rule c σ (leaf_of_failClosed c hcl hempty σ hg symEnd (by decide))
      (fun s hg => hquiet s "WEIRD" (by decide) hg)

/-- a failed parser answers FAIL to every defined call and stays as it is -/
theorem apiStep_of_failed (c : RtCtx) (σ : CState) (hf : c.Failed σ.state) (op : ApiOp) (hd : op.defined c) :
    (c.apiStep σ op).2.1 = "FAIL" ∧ (c.apiStep σ op).1 = σ := by
  cases op with
  | feed chunk pos =>
    simp only [RtCtx.apiStep, RtCtx.feed]
    cases hrest : chunk.drop pos with
    | nil =>
      simp only [ApiOp.defined, hrest, ne_eq, not_true_eq_false, false_or] at hd
      simp [hd, hf.2]
    | cons b rest' =>
      simp only [RtCtx.feedFrom, call_failLike c.M c.semOpts σ.state b hf.1, RtCtx.runTree]
      simp
  | endInput => simp [RtCtx.apiStep, (C10_fail_absorbing c σ hf.1).2]

/-- any sequence of defined calls keeps the state good -/
theorem runOps_good (c : RtCtx) (hcl : c.M.failClosed c.semOpts = true)
    (hempty : c.emptyFails c.M.failTarget = true) :
    ∀ (ops : List ApiOp) (σ : CState), (∀ op ∈ ops, op.bytesOK) → c.Good σ.state →
      c.Good (c.runOps σ ops).1.state :=
  fun ops σ hb hg => (runOps_rule c (R := fun _ => True)
    (fun σ op hb hg => ⟨(apiStep_good c hcl hempty σ op hb hg).1, trivial⟩) ops σ hb hg).1

theorem runOps_of_failed (c : RtCtx) (ops : List ApiOp) (σ : CState) (hf : c.Failed σ.state)
    (hd : ∀ op ∈ ops, op.defined c) : ∀ r ∈ (c.runOps σ ops).2, r.1 = "FAIL" :=
  (runOps_rule c (J := c.Failed) (R := (· = "FAIL")) (fun σ op hd hf =>
    have h := apiStep_of_failed c σ hf op hd
    ⟨h.2.symm ▸ hf, h.1⟩) ops σ hd hf).2

/-- **FAIL is final.**  For a machine passing the two decidable checks: whatever defined calls a
    session has made from a good state (`before`), if the next call — a `feed` of any chunk from any
    cursor, or `end` — reports FAIL, then every call after it (`after`: any chunks, empty ones for
    parsers that accept them, `end` any number of times) reports FAIL. -/
theorem C10_fail_is_final (c : RtCtx) (hcl : c.M.failClosed c.semOpts = true)
    (hempty : c.emptyFails c.M.failTarget = true) (σ : CState) (hg : c.Good σ.state)
    (before : List ApiOp) (op : ApiOp) (after : List ApiOp)
    (hb : ∀ o ∈ before, o.bytesOK) (hbo : op.bytesOK) (hd : ∀ o ∈ after, o.defined c)
    (hfail : (c.apiStep (c.runOps σ before).1 op).2.1 = "FAIL") :
    ∀ r ∈ (c.runOps (c.apiStep (c.runOps σ before).1 op).1 after).2, r.1 = "FAIL" := by
  have hg' := runOps_good c hcl hempty before σ hb hg
  have hf := (apiStep_good c hcl hempty _ op hbo hg').2 hfail
  exact runOps_of_failed c after _ hf hd

/-- `start()` leaves a good state (machines passing `startClosed`) -/
theorem start_good (c : RtCtx) (hst : c.startClosed = true) (σ0 : CState) : c.Good (c.start σ0).1.state := by
  simp only [RtCtx.startClosed, List.all_eq_true] at hst
  obtain ⟨p, hp, hl⟩ := runTree_leaf_mem_paths c true c.startTree (c.initStore σ0)
  have hleaf := hl ▸ hst p hp
  left
  simp only [RtCtx.start]
  generalize c.runTree true c.startTree (c.initStore σ0) = r at hleaf
  obtain ⟨σ', l⟩ := r
  cases l <;> exact hleaf

/-- **FAIL is final, for whole sessions**: `start()`, any calls, a call that reports FAIL — then
    every later call reports FAIL. -/
theorem C10_session_fail_is_final (c : RtCtx) (hst : c.startClosed = true)
    (hcl : c.M.failClosed c.semOpts = true) (hempty : c.emptyFails c.M.failTarget = true) (σ0 : CState)
    (before : List ApiOp) (op : ApiOp) (after : List ApiOp)
    (hb : ∀ o ∈ before, o.bytesOK) (hbo : op.bytesOK) (hd : ∀ o ∈ after, o.defined c)
    (hfail : (c.apiStep (c.runOps (c.start σ0).1 before).1 op).2.1 = "FAIL") :
    ∀ r ∈ (c.runOps (c.apiStep (c.runOps (c.start σ0).1 before).1 op).1 after).2, r.1 = "FAIL" :=
  C10_fail_is_final c hcl hempty (c.start σ0).1 (start_good c hst σ0) before op after hb hbo hd hfail

/-! ### Parsers that cannot fail

  A machine without a fail state and without `end()` has no way to report FAIL: stated for the
  machines passing `neverFailsOnBytes` (for which `emptyFails failTarget` need not hold: nothing
  ever leaves `failTarget` behind). -/

def ApiOp.isDataFeed : ApiOp → Prop
  | .feed chunk _ => ∀ b ∈ chunk, b < 256
  | .endInput => False

theorem isFailState_of_no_failIdx (M : Machine) (h : M.failIdx = none) (s : Int) : M.isFailState s = false := by
  unfold Machine.failIdx at h
  simp only [Option.map_eq_none_iff, List.find?_eq_none, List.mem_range] at h
  apply Bool.eq_false_iff.2
  intro ht
  simp only [Machine.isFailState, Bool.and_eq_true, decide_eq_true_eq] at ht
  exact h s.toNat ht.1.2 ht.2

theorem leaf_never_fails (c : RtCtx) (hcl : c.M.failClosed c.semOpts = true)
    (hnf : c.M.neverFailsOnBytes c.semOpts = true) (σ : CState)
    (hin : c.M.inTable σ.state = true) (x : Nat) (hx : x < 256) :
    LeafPost (c.M.inTable · = true) (fun code s => c.M.inTable s = true ∧ code ≠ "FAIL")
      (c.runTree false (c.M.call c.semOpts σ.state x) σ).2 := by
  simp only [Machine.failClosed, List.all_eq_true, List.mem_range] at hcl
  simp only [Machine.neverFailsOnBytes, List.all_eq_true, List.mem_range] at hnf
  refine c.call_leaf x (P := fun s l => c.M.inTable s = true → LeafPost _ _ l) (fun s hs p hp _ => ?_)
    (fun s hs h => absurd h (by simp [hs])) σ hin
  have h1 := hcl s hs x (by unfold nSym; omega) p hp
  have h2 := hnf s hs x hx p hp
  generalize p.2 = l at h1 h2 ⊢
  cases l with
  | next st adv => exact h1
  | yielded code st adv => exact ⟨h1, yield_ne code _ (by decide)⟩
  | ret code st adv =>
    have hc : code ≠ "FAIL" := by simpa using h2
    exact ⟨by simpa [hc] using h1, hc⟩

/-- **A parser that cannot fail never reports FAIL**: no fail state in the table, no call on a data
    byte with a FAIL leaf — then no sequence of `feed` calls (any chunks, empty ones included) from a
    state of the table ever answers FAIL. -/
theorem C10_cannot_fail (c : RtCtx) (hcl : c.M.failClosed c.semOpts = true)
    (hnf : c.M.neverFailsOnBytes c.semOpts = true) (hno : c.M.failIdx = none) :
    ∀ (ops : List ApiOp) (σ : CState), (∀ op ∈ ops, op.isDataFeed) → c.M.inTable σ.state = true →
      ∀ r ∈ (c.runOps σ ops).2, r.1 ≠ "FAIL" := by
  intro ops σ hd hin
  refine (runOps_rule c (J := (c.M.inTable · = true)) (R := (· ≠ "FAIL")) (fun σ op hop hin => ?_) ops σ hd hin).2
  cases op with
  | endInput => exact hop.elim
  | feed chunk pos =>
    refine feed_rule c (R := fun code s => c.M.inTable s = true ∧ code ≠ "FAIL")
      (fun s h => ⟨⟨h, by decide⟩, h, by decide⟩) (fun s hin he => ?_)
      (fun σ b hb hin => leaf_never_fails c hcl hnf σ hin b hb) σ chunk pos hop hin
    -- without a fail state the empty-chunk test says FAIL only past the table
    simp only [RtCtx.emptyFails, isFailState_of_no_failIdx c.M hno, Bool.false_or, Bool.and_eq_true,
      beq_iff_eq] at he
    have := ((c.M.inTable_iff _).1 hin).2
    rw [he.2, Int.toNat_natCast] at this
    exact absurd this (Nat.lt_irrefl _)

end Nmfu
