/-
  C11 — (the part a model can carry) the emitted feed and end functions never jump to a label
  they do not define.

  `Machine.feedLabels/endLabels` and `Machine.feedGotos/endGotos` are the labels and gotos the
  code generator's templates emit, as functions of the machine (NmfuModel/Labels.lean; compared
  with the labels and gotos scraped from the real generated text on every run).  For every
  machine whose transition targets are state indices of its own table, and for every option set:
  every goto has its label.  (The templates compute the labels from all transitions of the table,
  reachable from the start state or not; a generator that looks at the reachable ones only
  violates this: the repair recorded in known_findings.json.)  The verdict of gcc / g++ on the
  whole text is not modelled; it is explored.
-/
import NmfuModel.Labels
import NmfuProps.DispatchRel
namespace Nmfu

/-- Transition targets are `-1` (no state) or indices into the table (what the exporter and
    `dfa.states.index` guarantee). -/
def Machine.TargetsInRange (M : Machine) : Prop :=
  ∀ a ∈ M.allArms, a.target ≥ 0 → a.target.toNat < M.states.size

theorem mem_allArms_of_state (M : Machine) (s : St) (a : Arm)
    (hs : s ∈ M.states.toList) (ha : a ∈ s.arms) : a ∈ M.allArms :=
  List.mem_flatMap.2 ⟨s, hs, ha⟩

theorem feedEmitted_sub (s : St) (a : Arm) (h : a ∈ s.feedEmitted) : a ∈ s.arms := by
  unfold St.feedEmitted at h
  split at h
  · cases h
  · exact h
  · rcases List.mem_append.1 h with h | h
    · have h := (List.mem_filter.1 h).1
      split at h
      · exact (List.mem_filter.1 h).1
      · exact h
    · cases he : s.elseArm with
      | none => rw [he] at h; cases h
      | some e =>
        rw [he] at h
        simp only [] at h
        by_cases hc : (s.accepting && e.err) = true
        · rw [if_pos hc] at h; cases h
        · rw [if_neg hc] at h
          cases List.mem_singleton.1 h
          exact (St.elseArm_spec he).1

theorem endEmitted_sub (s : St) (a : Arm) (h : a ∈ s.endEmitted) : a ∈ s.arms := by
  unfold St.endEmitted at h
  split at h
  · cases h
  · exact h
  · split at h
    · next he =>
      split at h
      · cases h
      · cases List.mem_singleton.1 h; exact (St.endArm_spec he).1
    · cases h

theorem mem_ite_singleton {α : Type} {c : Prop} [Decidable c] {x y : α}
    (h : x ∈ if c then [y] else []) : c ∧ x = y :=
  (List.mem_ite_nil_right.1 h).imp_right List.eq_of_mem_singleton

theorem mem_armGotos (M : Machine) (o : SemOpts) (a : Arm) (fromEnd : Bool) (g : String)
    (hg : g ∈ M.armGotos o a fromEnd) :
    g = "repeatswitch" ∨
    (a.target ≥ 0 ∧ a.fall = true ∧ M.directJump o.strictDone a true = true ∧
      g = fallLabel a.target.toNat) ∨
    (fromEnd = false ∧ a.target ≥ 0 ∧ M.directJump o.strictDone a false = true ∧
      g = jptoLabel a.target.toNat) := by
  unfold Machine.armGotos at hg
  rcases List.mem_append.1 hg with hg | hg
  · exact .inl (mem_ite_singleton hg).2
  · by_cases hf : a.fall = true
    · rw [if_pos hf] at hg
      obtain ⟨ht, rfl⟩ := mem_ite_singleton hg
      by_cases hd : M.directJump o.strictDone a true = true
      · exact .inr (.inl ⟨ht, hf, hd, if_pos hd⟩)
      · exact .inl (if_neg hd)
    · rw [if_neg hf] at hg
      by_cases hi : M.immediateDone o a fromEnd = true
      · rw [if_pos hi] at hg; cases hg
      · rw [if_neg hi] at hg
        by_cases hfe : fromEnd = true
        · rw [if_pos hfe] at hg; cases hg
        · rw [if_neg hfe] at hg
          obtain ⟨ht, rfl⟩ := mem_ite_singleton hg
          by_cases hd : M.directJump o.strictDone a false = true
          · exact .inr (.inr ⟨Bool.eq_false_iff.2 hfe, ht, hd, if_pos hd⟩)
          · exact .inl (if_neg hd)

/-- A label guarded by "some arm of the table passes `q`" is emitted as soon as one arm does: the
    templates look at all arms, reachable or not. -/
theorem label_mem {arms : List Arm} {a : Arm} (ha : a ∈ arms) {q : Arm → Bool} (hq : q a = true)
    (l : String) : l ∈ if arms.any q then [l] else [] := by
  rw [if_pos (List.any_eq_true.2 ⟨a, ha, hq⟩)]; exact List.mem_singleton.2 rfl

/-- **Every goto of `feed` has its label**, for every machine and option set. -/
theorem C11_feed_labels_closed (M : Machine) (o : SemOpts) (hr : M.TargetsInRange)
    (g : String) (hg : g ∈ M.feedGotos o) : g ∈ M.feedLabels o.strictDone := by
  simp only [Machine.feedGotos, List.mem_flatMap] at hg
  obtain ⟨s, hs, a, ha, hga⟩ := hg
  have haa := mem_allArms_of_state M s a hs (feedEmitted_sub s a ha)
  simp only [Machine.feedLabels, List.mem_cons, List.mem_flatMap, List.mem_range, List.mem_append]
  rcases mem_armGotos M o a false g hga with rfl | ⟨ht, hf, hd, rfl⟩ | ⟨_, ht, hd, rfl⟩
  · exact .inl rfl
  · exact .inr ⟨_, hr a haa ht, .inl (label_mem haa (by simp [Int.toNat_of_nonneg ht, hf, hd]) _)⟩
  · exact .inr ⟨_, hr a haa ht, .inr (label_mem haa (by simp [Int.toNat_of_nonneg ht, hd]) _)⟩

/-- **Every goto of `end` has its label.** -/
theorem C11_end_labels_closed (M : Machine) (o : SemOpts) (hr : M.TargetsInRange)
    (g : String) (hg : g ∈ M.endGotos o) : g ∈ M.endLabels := by
  simp only [Machine.endGotos, List.mem_flatMap] at hg
  obtain ⟨s, hs, a, ha, hga⟩ := hg
  have haa := mem_allArms_of_state M s a hs (endEmitted_sub s a ha)
  simp only [Machine.endLabels, List.mem_cons, List.mem_flatMap, List.mem_range]
  rcases mem_armGotos M o a true g hga with rfl | ⟨ht, hf, _, rfl⟩ | ⟨hfe, _⟩
  · exact .inl rfl
  · exact .inr ⟨_, hr a haa ht, label_mem haa (by simp [Int.toNat_of_nonneg ht, hf]) _⟩
  · cases hfe

end Nmfu
