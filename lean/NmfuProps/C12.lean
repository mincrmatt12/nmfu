/-
  C12 — representation options never change what is parsed.

  The runtime model has no parameter at all for: global / per-state hooks, the user pointer,
  packed enums, the header guard style, the range-collapse threshold.  Binaries built with any of
  them are compared with one and the same model run (harness/check_C12.py), so for these options
  independence of the model is an identity.  For the options the model does carry:
  * the cursor mode and the zero-length flag are not read by any step of the semantics
    (`C12_cursor_and_zero_len_not_in_semantics`: the whole chunked session is the same), and the
    zero-length flag matters to `feed` only for an empty chunk
    (`C12_zero_len_flag_irrelevant_on_nonempty_chunks`);
  * the string-storage options (`dynamic`, `onDemand`, `deleteFrees`) change the allocation state
    of the buffers.  `NmfuProps/C12Storage.lean` proves a refinement of the runtime model to a
    semantics on storage-free stores (`C12_session_refines`) and from it
    `C12_storage_independent`: for machines passing `safeCheck`, any two storage settings give
    the same codes, cursors, scalars, buffer lengths and contents on every sequence of API calls —
    provided index expressions `s[i]` are bounds-checked (the default; the check is against the
    current length) or absent.  With `-funsafe-string-indexing` an index at or beyond the length
    reads stale or uninitialised bytes, which do depend on where the buffer lives: such machines
    are outside the theorem (and that option is not one of the representation options of C12).
    `C12_storage_independent_partial` is the part that needs no hypothesis on the machine (hook,
    break, return and yield events).
-/
import NmfuProps.C02
namespace Nmfu

def RtCtx.withCursorOpts (c : RtCtx) (i z : Bool) : RtCtx :=
  { M := c.M, ro := { c.ro with indirect := i, zeroLen := z } }

theorem applyEv_cursor_irrel (c : RtCtx) (i z : Bool) : (c.withCursorOpts i z).applyEv = c.applyEv := by
  funext isStart σ e
  cases e with
  | act a => cases a <;> rfl
  | asked q v => cases q <;> rfl

theorem answer_cursor_irrel (c : RtCtx) (i z : Bool) : (c.withCursorOpts i z).answer = c.answer := by
  funext σ q
  cases q <;> rfl

theorem runTree_cursor_irrel (c : RtCtx) (i z : Bool) : (c.withCursorOpts i z).runTree = c.runTree := by
  funext isStart t
  induction t with
  | emit a k ih => funext σ; simp only [RtCtx.runTree, applyEv_cursor_irrel, ih]
  | ask q kt kf iht ihf => funext σ; simp only [RtCtx.runTree, applyEv_cursor_irrel, answer_cursor_irrel, iht, ihf]
  | leaf l => rfl

theorem feedL_cursor_irrel (c : RtCtx) (i z : Bool) :
    ∀ (inp : List Nat) (σ : CState) (pos : Nat),
      (c.withCursorOpts i z).feedL σ inp pos = c.feedL σ inp pos := by
  intro inp
  induction inp with
  | nil => intro σ pos; rfl
  | cons b rest ih => intro σ pos; simp only [RtCtx.feedL, runTree_cursor_irrel, ih]; rfl

theorem runAll_cursor_irrel (c : RtCtx) (i z : Bool) :
    ∀ (fuel : Nat) (σ : CState) (inp : List Nat) (off : Nat),
      (c.withCursorOpts i z).runAll fuel σ inp off = c.runAll fuel σ inp off := by
  intro fuel
  induction fuel with
  | zero => intro σ inp off; simp only [RtCtx.runAll, feedL_cursor_irrel]
  | succ fuel ih => intro σ inp off; simp only [RtCtx.runAll, feedL_cursor_irrel, ih]

/-- The cursor mode and the zero-length flag are not inputs of the semantics: the whole chunked
    session — hook log, codes and offsets, final state struct — is the same. -/
theorem C12_cursor_and_zero_len_not_in_semantics (c : RtCtx) (i z : Bool) :
    ∀ (cs : List (List Nat)) (fuel : Nat) (σ : CState) (off : Nat),
      (c.withCursorOpts i z).runChunks fuel σ cs off = c.runChunks fuel σ cs off := by
  intro cs fuel σ off
  rw [C02_chunk_independent, C02_chunk_independent, runAll_cursor_irrel]

theorem feedFrom_cursor_irrel (c : RtCtx) (i z : Bool) : (c.withCursorOpts i z).feedFrom = c.feedFrom := by
  funext fuel
  induction fuel with
  | zero => rfl
  | succ fuel ih =>
    funext σ rest pos
    cases rest with
    | nil => rfl
    | cons b rest' => simp only [RtCtx.feedFrom, runTree_cursor_irrel, ih]; rfl

/-- The zero-length-input flag only matters for an empty chunk. -/
theorem C12_zero_len_flag_irrelevant_on_nonempty_chunks (c : RtCtx) (i z : Bool)
    (σ : CState) (chunk : List Nat) (pos : Nat) (h : chunk.drop pos ≠ []) :
    (c.withCursorOpts i z).feed σ chunk pos = c.feed σ chunk pos := by
  simp only [RtCtx.feed, List.isEmpty_eq_false_iff.2 h, Bool.and_false, Bool.false_eq_true, if_false,
    feedFrom_cursor_irrel]

/-- Events that do not touch a buffer have the same effect under any storage options. -/
theorem C12_storage_independent_partial (c : RtCtx) (d o f : Bool) (σ : CState)
    (isStart : Bool) (a : AEv)
    (hbuf : match a with
      | .hook _ _ => True | .brk => True | .ret _ => True | .yield _ => True
      | _ => False) :
    ({ M := c.M, ro := { c.ro with dynamic := d, onDemand := o, deleteFrees := f } } : RtCtx).apply σ isStart a
      = c.apply σ isStart a := by
  cases a <;> first | exact False.elim hbuf | rfl

end Nmfu
