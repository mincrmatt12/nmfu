/-
  C12 — where strings live never changes what is parsed (refinement to a storage-free store).

  `CState.abs` forgets everything about a store that depends on the storage options: the
  allocation state of each buffer, the bytes at and beyond its length counter, the rendering of the
  log.  What is left is what a user of the generated parser can observe through the state struct:
  the state number, the scalar outputs, and for each string / raw output its length and its bytes
  below the length.  `applyA` / `runTreeA` / `feedFromA` … are the semantics on such abstract
  stores; they mention neither `dynamic` nor `onDemand` nor `deleteFrees`.

  Every API call of the concrete model refines the abstract call (`C12_session_refines`), for a
  machine passing `safeCheck` (C03) whose index expressions `s[i]` are bounds-checked (the
  default: against the current length, so only bytes below the length are read) or absent
  (`idxFreeCheck`; with `-funsafe-string-indexing` an index at or beyond the length reads stale or
  uninitialised bytes, which do depend on where the buffer lives).  Storage independence is the
  corollary: two option sets that differ only in the storage options refine the same abstract run.
-/
import NmfuProps.C03
-- nothing below uses C12: harness/check_C12.py audits the theorems of both C12 files through this module
import NmfuProps.C12
import NmfuProps.C10
namespace Nmfu

/-! ### Expressions see the buffers only below their length (or not at all) -/

/-- an expression the storage-free semantics can evaluate: no index read, or bounds-checked ones -/
def exprOK (unsafeIdx : Bool) (e : IExpr) : Bool := e.idxFree || !unsafeIdx

theorem exprOK_bin (u : Bool) (op : BinOp) (f : Bool) (l r : IExpr) (h : exprOK u (.bin op f l r) = true) :
    exprOK u l = true ∧ exprOK u r = true := by
  rwa [exprOK, IExpr.idxFree, Bool.or_and_distrib_right, Bool.and_eq_true] at h

theorem exprOK_idx (u : Bool) (i : Nat) (e : IExpr) (h : exprOK u (.idx i e) = true) :
    u = false ∧ exprOK u e = true := by
  simp only [exprOK, IExpr.idxFree, Bool.false_or, Bool.not_eq_true', Bool.or_eq_true] at h ⊢
  exact ⟨h, Or.inr h⟩

/-- Two environments that agree on scalars, lengths, `$last`, the indexing mode, and on the bytes
    below each length evaluate alike every expression that has no index read or whose index reads are
    bounds-checked. -/
theorem eval_agree (ρ1 ρ2 : Env) (ho : ρ1.outVal = ρ2.outVal) (hl : ρ1.lenVal = ρ2.lenVal)
    (hla : ρ1.last = ρ2.last) (hu : ρ1.unsafeIdx = ρ2.unsafeIdx)
    (hb : ∀ i (k : Int), 0 ≤ k → k < (ρ1.lenVal i).v → ρ1.byteAt i k.toNat = ρ2.byteAt i k.toNat) :
    ∀ e : IExpr, exprOK ρ1.unsafeIdx e = true → eval ρ1 e = eval ρ2 e := by
  intro e
  induction e with
  | lit | litB | litE => intro _; rfl
  | out i => intro _; simp [eval, ho]
  | len i => intro _; simp [eval, hl]
  | last => intro _; simp [eval, hla]
  | idx i e ih =>
    intro h
    obtain ⟨hu1, he⟩ := exprOK_idx _ i e h
    have hu2 : ρ2.unsafeIdx = false := by rw [← hu]; exact hu1
    simp only [eval, ih he, hu1, hu2, Bool.false_eq_true, if_false]
    cases hev : eval ρ2 e with
    | none => rfl
    | some iv =>
      simp only
      rw [← hl]
      refine ite_congr rfl (fun hc => ?_) fun _ => rfl
      simp only [Bool.and_eq_true, decide_eq_true_eq] at hc
      rw [hb i _ hc.1 hc.2]
  | bin op f l r ihl ihr =>
    intro h
    obtain ⟨h1, h2⟩ := exprOK_bin _ op f l r h
    cases op <;> (unfold eval; rw [ihl h1, ihr h2])

/-! ### The abstraction -/

/-- the bytes below the length counter -/
def StrBuf.content (b : StrBuf) : List (Option Nat) :=
  (List.range b.counter).map fun k => b.bytes.getD k none

structure Abs where
  state : Int
  scalars : Array Int
  fault : Option String
  -- how many buffers there are: an event on an index past them changes nothing (`Array.setIfInBounds`),
  -- and `setContent` has to do the same for `abs_updStr` to hold
  nstr : Nat
  content : Nat → List (Option Nat)

def CState.abs (σ : CState) : Abs :=
  ⟨σ.state, σ.scalars, σ.fault, σ.strs.size, fun i => (σ.str i).content⟩

theorem Abs.ext' {a b : Abs} (h1 : a.state = b.state) (h2 : a.scalars = b.scalars)
    (h3 : a.fault = b.fault) (h4 : a.nstr = b.nstr) (h5 : ∀ j, a.content j = b.content j) : a = b := by
  cases a; cases b
  simp only [Abs.mk.injEq]
  exact ⟨h1, h2, h3, h4, funext h5⟩

def Abs.addFault (a : Abs) (m : String) : Abs :=
  if a.fault.isSome then a else { a with fault := some m }

def Abs.setContent (a : Abs) (i : Nat) (l : List (Option Nat)) : Abs :=
  { a with content := fun j => if j = i ∧ i < a.nstr then l else a.content j }

/-- what expressions can read of an abstract store (bytes below the length only) -/
def RtCtx.envA (c : RtCtx) (a : Abs) (inval : Nat) : Env where
  outVal := fun i => ⟨(c.ty i).cty c.ro.u8 c.ro.packed, a.scalars.getD i 0⟩
  lenVal := fun i => ⟨counterTy (c.ty i), (a.content i).length⟩
  size := fun i => (c.ty i).size
  byteAt := fun i k =>
    match (a.content i)[k]? with
    | some (some v) => some ⟨CTy.u8, v % 256⟩
    | _ => none
  last := ⟨CTy.u8, inval⟩
  unsafeIdx := c.ro.unsafeIdx

theorem content_length (b : StrBuf) : b.content.length = b.counter := by
  simp [StrBuf.content]

theorem content_getElem? (b : StrBuf) (k : Nat) (hk : k < b.counter) :
    b.content[k]? = some (b.bytes.getD k none) := by
  simp [StrBuf.content, hk]

theorem byteAt_abs (c : RtCtx) (σ : CState) (h : Inv c σ) (i : Nat) (k : Int) (h0 : 0 ≤ k)
    (hk : k < ((c.env σ 0).lenVal i).v) :
    (c.env σ 0).byteAt i k.toNat = (c.envA σ.abs 0).byteAt i k.toNat := by
  have hk' : k.toNat < (σ.str i).counter := by
    have : k < ((σ.str i).counter : Int) := hk
    omega
  have hcont : ((σ.abs).content i)[k.toNat]? = some ((σ.str i).bytes.getD k.toNat none) :=
    content_getElem? (σ.str i) k.toNat hk'
  simp only [RtCtx.env, RtCtx.envA, hcont]
  cases ha : (σ.str i).alloc with
  | null => have := (h.2 i).counter_null ha; omega
  | freed => exact absurd ha (h.2 i).not_freed
  | inStruct | heap => simp only; cases (σ.str i).bytes.getD k.toNat none <;> rfl

theorem eval_abs (c : RtCtx) (σ : CState) (hinv : Inv c σ) (e : IExpr) (h : exprOK c.ro.unsafeIdx e = true) :
    eval (c.env σ 0) e = eval (c.envA σ.abs 0) e := by
  apply eval_agree _ _ _ _ _ _ _ e h
  · rfl
  · funext i; simp only [RtCtx.env, RtCtx.envA, CState.abs, content_length]
  · rfl
  · rfl
  · intro i k h0 hk; exact byteAt_abs c σ hinv i k h0 hk

def RtCtx.applyA (c : RtCtx) (a : Abs) : AEv → Abs
  | .set i e =>
      match eval (c.envA a 0) e with
      | none => a.addFault "undefined behaviour in expression"
      | some v => { a with scalars := a.scalars.setIfInBounds i (((c.ty i).cty c.ro.u8 c.ro.packed).wrap v.v) }
  | .append i byte => a.setContent i (a.content i ++ [some (byte.getD 0 % 256)])
  | .appendC i e =>
      match eval (c.envA a 0) e with
      | none => a.addFault "undefined behaviour in expression"
      | some v => a.setContent i (a.content i ++ [some ((CTy.u8.wrap v.v).toNat % 256)])
  | .setStr i bs => a.setContent i (bs.map fun v => some (v % 256))
  | .delete i => a.setContent i []
  | _ => a

def RtCtx.answerA (c : RtCtx) (a : Abs) : Quest → Option Bool
  | .cond e =>
      match eval (c.envA a 0) e with
      | none => none
      | some v => some (v.v ≠ 0)
  | .full i => some ((a.content i).length == (c.ty i).cap)

def RtCtx.applyEvA (c : RtCtx) (a : Abs) : MEv → Abs
  | .act ev => c.applyA a ev
  | .asked (.full _) _ => a
  | .asked (.cond e) _ =>
      match c.answerA a (.cond e) with
      | none => a.addFault "undefined behaviour in condition"
      | some _ => a

def RtCtx.runTreeA (c : RtCtx) : CTree → Abs → Abs × MLeaf
  | .emit ev k, a => c.runTreeA k (c.applyEvA a (.act ev))
  | .ask q kt kf, a =>
      if c.answerA a q == some true then c.runTreeA kt (c.applyEvA a (.asked q true))
      else c.runTreeA kf (c.applyEvA a (.asked q false))
  | .leaf l, a => (a, l)

theorem abs_updStr (σ : CState) (i : Nat) (f : StrBuf → StrBuf) :
    (σ.updStr i f).abs = σ.abs.setContent i (f (σ.str i)).content := by
  apply Abs.ext'
  · rfl
  · rfl
  · rfl
  · exact Array.size_setIfInBounds
  · intro j
    simp only [CState.abs, Abs.setContent, str_updStr, apply_ite StrBuf.content]
    rfl  -- the two sides still differ in how `σ.abs.nstr` is written inside the `Decidable` instance

theorem abs_addFault (σ : CState) (m : String) : (σ.addFault m).abs = σ.abs.addFault m :=
  apply_ite CState.abs ..

theorem Abs.setContent_self (a : Abs) (i : Nat) : a.setContent i (a.content i) = a := by
  apply Abs.ext' <;> try rfl
  intro j
  simp only [Abs.setContent]
  split
  · next h => rw [h.1]
  · rfl

/-- content of a buffer after a byte was stored at its counter and the counter moved on -/
theorem content_store (b : StrBuf) (v : Nat) (bytes' : Array (Option Nat))
    (hlt : b.counter < b.bytes.size)
    (hb : ∀ k, k ≤ b.counter → bytes'.getD k none = (b.bytes.setIfInBounds b.counter (some v)).getD k none) (al : Alloc) :
    ({ bytes := bytes', counter := b.counter + 1, alloc := al } : StrBuf).content = b.content ++ [some v] := by
  simp only [StrBuf.content, List.range_succ, List.map_append, List.map_cons, List.map_nil]
  congr 1
  · refine List.map_congr_left fun k hk => ?_
    have hk' := List.mem_range.1 hk
    rw [hb k (by omega), getD_setIfInBounds_ne _ (by omega)]
  · rw [hb _ (Nat.le_refl _)]
    simp [Array.getD_eq_getD_getElem?, hlt]

theorem content_storeB (nt : Bool) (v : Nat) (b : StrBuf) (hlt : b.counter < b.bytes.size) :
    (storeB nt v b).content = b.content ++ [some (v % 256)] := by
  cases nt
  · exact content_store b (v % 256) _ hlt (fun k _ => rfl) _
  · exact content_store b (v % 256) _ hlt (fun k hk => getD_setIfInBounds_ne _ (by omega) _ _) _

theorem content_allocB (c : RtCtx) (i : Nat) (b : StrBuf) (h0 : b.alloc = .null → b.counter = 0) :
    (allocB c i b).content = b.content := by
  simp only [allocB]
  split
  · next h =>
    simp only [Bool.and_eq_true, beq_iff_eq] at h
    simp [StrBuf.content, h0 h.2]
  · rfl

theorem map_eq_range_map {α β : Type} (bs : List α) (d : α) (f : α → β) :
    (List.range bs.length).map (fun k => f (bs.getD k d)) = bs.map f := by
  apply List.ext_getElem
  · simp
  · intro k h1 h2
    simp at h1
    simp [h1]

/-- content of a buffer whose first `n` bytes were filled and whose counter is `n` -/
theorem content_filled (bs : List Nat) (b : StrBuf) (bytes' : Array (Option Nat)) (al : Alloc)
    (hsz : bs.length ≤ b.bytes.size)
    (hb : ∀ k, k < bs.length → bytes'.getD k none = (fillB (fun k => bs.getD k 0) (List.range bs.length) b).bytes.getD k none) :
    ({ bytes := bytes', counter := bs.length, alloc := al } : StrBuf).content = bs.map fun v => some (v % 256) := by
  rw [← map_eq_range_map bs 0 (fun v => some (v % 256))]
  simp only [StrBuf.content]
  apply List.map_congr_left
  intro k hk
  have hk' := List.mem_range.1 hk
  rw [hb k hk']
  exact getD_foldl_range (fun k => some (bs.getD k 0 % 256)) none bs.length b.bytes k hk' hsz

theorem content_setB (nt : Bool) (bs : List Nat) (b : StrBuf) (hsz : bs.length ≤ b.bytes.size) :
    (setB nt bs b).content = bs.map fun v => some (v % 256) := by
  cases nt
  · exact content_filled bs b _ _ hsz (fun k _ => rfl)
  · exact content_filled bs b _ _ hsz (fun k hk => getD_setIfInBounds_ne _ (by omega) _ _)

theorem content_counter_zero (bytes : Array (Option Nat)) (al : Alloc) :
    ({ bytes := bytes, counter := 0, alloc := al } : StrBuf).content = [] := rfl

theorem content_deleteB (c : RtCtx) (isStart : Bool) (i : Nat) (b : StrBuf) :
    (deleteB c isStart i b).content = [] := by
  unfold deleteB
  split <;> rfl

/-! ### Events commute with the abstraction -/

theorem abs_onDemandAlloc (c : RtCtx) (σ : CState) (i : Nat) (h : Inv c σ) :
    (c.onDemandAlloc σ i).abs = σ.abs := by
  rw [onDemandAlloc_updStr, abs_updStr, content_allocB c i _ (h.2 i).counter_null]
  exact Abs.setContent_self _ _

theorem abs_storeByte_alloc (c : RtCtx) (hs : c.SizesOK) (σ : CState) (i v : Nat) (h : Inv c σ)
    (hroom : (σ.str i).counter < (c.ty i).cap) :
    (c.storeByte (c.onDemandAlloc σ i) i v).abs
      = σ.abs.setContent i ((σ.str i).content ++ [some (v % 256)]) := by
  obtain ⟨hb1, hw1, hc1⟩ := bufP_allocB (h.2 i)
  rw [storeByte_alloc c hs σ i v (h.2 i) hroom, abs_updStr,
    content_storeB _ _ _ (by rw [hb1.size_eq hw1, hc1]; have := (hs i).1; omega),
    content_allocB c i _ (h.2 i).counter_null]

/-- the expressions of an event are ones the storage-free semantics can evaluate -/
def aevOK (u : Bool) : AEv → Bool
  | .set _ e => exprOK u e
  | .appendC _ e => exprOK u e
  | _ => true

/-- **One event**: performed on a store satisfying the invariant, where a guarded tree can reach it,
    it does to the abstraction of the store what the abstract semantics says. -/
theorem abs_apply (c : RtCtx) (hs : c.SizesOK) (σ : CState) (isStart : Bool) (a : AEv) (h : Inv c σ)
    (hg : evGuard c σ a) (he : aevOK c.ro.unsafeIdx a = true) :
    (c.apply σ isStart a).abs = c.applyA σ.abs a := by
  cases a with
  | append i byte => exact abs_storeByte_alloc c hs σ i _ h hg
  | appendC i e =>
    rw [apply_appendC, eval_abs c _ (inv_onDemandAlloc c σ i h) e he, abs_onDemandAlloc c σ i h]
    simp only [RtCtx.applyA]
    cases eval (c.envA σ.abs 0) e with
    | none => simp only []; rw [abs_addFault, abs_onDemandAlloc c σ i h]
    | some v => exact abs_storeByte_alloc c hs σ i _ h hg
  | setStr i bs =>
    obtain ⟨hb1, hw1, _⟩ := bufP_allocB (h.2 i)
    rw [apply_setStr_eq c hs σ isStart i bs (h.2 i) hg, abs_updStr,
      content_setB _ bs _ (by rw [hb1.size_eq hw1]; have := (hs i).1; exact Nat.le_trans hg this)]
    rfl
  | delete i => rw [apply_delete_eq c hs σ isStart i (h.2 i), abs_updStr, content_deleteB]; rfl
  | set i e =>
    simp only [RtCtx.apply, RtCtx.applyA]
    rw [eval_abs c σ h e he]
    cases eval (c.envA σ.abs 0) e with
    | none => exact abs_addFault σ _
    | some v => rfl
  | _ => rfl

/-- every expression of the tree is one the storage-free semantics can evaluate -/
def treeOK (u : Bool) : CTree → Bool
  | .emit (.set _ e) k => exprOK u e && treeOK u k
  | .emit (.appendC _ e) k => exprOK u e && treeOK u k
  | .emit _ k => treeOK u k
  | .ask (.cond e) kt kf => exprOK u e && treeOK u kt && treeOK u kf
  | .ask _ kt kf => treeOK u kt && treeOK u kf
  | .leaf _ => true

theorem treeOK_of_idxFree_or_checked (u : Bool) (t : CTree) (h : treeIdxFree t = true ∨ u = false) :
    treeOK u t = true := by
  rcases h with h | rfl
  · fun_induction treeIdxFree t <;> simp_all [treeOK, exprOK]
  · fun_induction treeOK false t <;> simp_all [exprOK]

def questOK (u : Bool) : Quest → Bool
  | .cond e => exprOK u e
  | .full _ => true

theorem treeOK_emit (u : Bool) (a : AEv) (k : CTree) :
    treeOK u (.emit a k) = (aevOK u a && treeOK u k) := by cases a <;> rfl

theorem treeOK_ask (u : Bool) (q : Quest) (kt kf : CTree) :
    treeOK u (.ask q kt kf) = (questOK u q && treeOK u kt && treeOK u kf) := by cases q <;> rfl

theorem answer_abs (c : RtCtx) (σ : CState) (h : Inv c σ) (q : Quest) (hq : questOK c.ro.unsafeIdx q = true) :
    c.answer σ q = c.answerA σ.abs q := by
  cases q with
  | full i => simp only [RtCtx.answer, RtCtx.answerA, CState.abs, content_length]
  | cond e => simp only [RtCtx.answer, RtCtx.answerA, eval_abs c σ h e hq]; rfl

theorem abs_asked (c : RtCtx) (σ : CState) (h : Inv c σ) (isStart : Bool) (q : Quest) (v : Bool)
    (hq : questOK c.ro.unsafeIdx q = true) :
    (c.applyEv isStart σ (.asked q v)).abs = c.applyEvA σ.abs (.asked q v) := by
  cases q with
  | full i => rfl
  | cond e =>
    simp only [RtCtx.applyEv, RtCtx.applyEvA]
    rw [answer_abs c σ h (.cond e) hq]
    cases c.answerA σ.abs (.cond e) with
    | none => exact abs_addFault σ _
    | some _ => rfl

theorem runTreeA_ask (c : RtCtx) (q : Quest) (kt kf : CTree) (a : Abs) (v : Bool)
    (hv : (c.answerA a q == some true) = v) :
    c.runTreeA (.ask q kt kf) a = c.runTreeA (if v then kt else kf) (c.applyEvA a (.asked q v)) := by
  cases v <;> simp [RtCtx.runTreeA, hv]

/-- **Refinement, one call tree**: on a store satisfying the C03 invariant, a guarded tree whose
    expressions the storage-free semantics can evaluate (`treeOK`) runs concretely exactly as it
    runs on the abstraction of the store: the same answers, hence the same path and leaf, and the
    abstraction of the result is the abstract result. -/
theorem runTree_abs (c : RtCtx) (hs : c.SizesOK) (isStart : Bool) (t : CTree) :
    ∀ σ, guardedB c t = true → treeOK c.ro.unsafeIdx t = true → Inv c σ →
      (c.runTree isStart t σ).1.abs = (c.runTreeA t σ.abs).1 ∧
      (c.runTree isStart t σ).2 = (c.runTreeA t σ.abs).2 := by
  intro σ hg hf h
  refine guarded_run_induction c hs isStart
    (motive := fun t σ => treeOK c.ro.unsafeIdx t = true →
      (c.runTree isStart t σ).1.abs = (c.runTreeA t σ.abs).1 ∧
      (c.runTree isStart t σ).2 = (c.runTreeA t σ.abs).2)
    (fun _ _ _ _ => ⟨rfl, rfl⟩) ?_ ?_ t σ hg h hf
  · intro a k σ h hga ih hf
    rw [treeOK_emit, Bool.and_eq_true] at hf
    have := ih hf.2
    rwa [abs_apply c hs σ isStart a h hga hf.1] at this
  · intro q kt kf σ v h hv ih hf
    rw [treeOK_ask, Bool.and_eq_true, Bool.and_eq_true] at hf
    rw [runTree_ask c isStart q kt kf σ v hv,
      runTreeA_ask c q kt kf σ.abs v (by rw [← answer_abs c σ h q hf.1.1]; exact hv),
      ← abs_asked c σ h isStart q v hf.1.1]
    exact ih (by cases v; exact hf.2; exact hf.1.2)

structure Refines (c : RtCtx) (σ : CState) (a : Abs) : Prop where
  inv : Inv c σ
  abs_eq : σ.abs = a

section
variable {c : RtCtx} {σ : CState} {a : Abs}

theorem Refines.state (h : Refines c σ a) : a.state = σ.state := h.abs_eq ▸ rfl

theorem Refines.addFault (h : Refines c σ a) (m : String) : Refines c (σ.addFault m) (a.addFault m) :=
  ⟨inv_addFault c σ m h.inv, h.abs_eq ▸ abs_addFault σ m⟩

theorem Refines.setState (h : Refines c σ a) (s : Int) :
    Refines c { σ with state := s } { a with state := s } :=
  ⟨inv_state s h.inv, h.abs_eq ▸ rfl⟩

/-- `runTree_inv` and `runTree_abs` as equations for the two runs: `feedFrom`, `endCall` and `start` are
    each a `match` on the pair a run returns, and rewriting with these reduces it. -/
theorem Refines.runTree (h : Refines c σ a) (hs : c.SizesOK) (isStart : Bool) (t : CTree)
    (hg : guardedB c t = true) (hf : treeOK c.ro.unsafeIdx t = true) :
    ∃ σ' a' l, c.runTree isStart t σ = (σ', l) ∧ c.runTreeA t a = (a', l) ∧ Refines c σ' a' := by
  obtain ⟨hi, rfl⟩ := h
  obtain ⟨h1, h2⟩ := runTree_abs c hs isStart t σ hg hf hi
  exact ⟨_, _, _, rfl, Prod.ext h1.symm h2.symm, runTree_inv c hs isStart t σ hg hi, rfl⟩

end

/-! ### API calls on abstract stores -/

def RtCtx.feedFromA (c : RtCtx) : Nat → Abs → List Nat → Nat → Abs × String × Nat
  | 0, a, _, pos => (a.addFault "feed ran out of fuel", "SPIN", pos)
  | fuel + 1, a, rest, pos =>
    match rest with
    | [] => (a.addFault "read past the end of the chunk", "OK", pos)
    | b :: _ =>
      let (a', l) := c.runTreeA (c.M.call c.semOpts a.state b) a
      match l with
      | .next s adv =>
        let a' := { a' with state := s }
        let rest'' := rest.drop adv
        if rest''.isEmpty then
          (if adv > rest.length then a'.addFault "cursor moved past the end of the chunk" else a', "OK", pos + adv)
        else c.feedFromA fuel a' rest'' (pos + adv)
      | .ret code st adv => ({ a' with state := st }, code, pos + adv)
      | .yielded code st adv => ({ a' with state := st }, "YIELD_" ++ code, pos + adv)

def RtCtx.feedA (c : RtCtx) (a : Abs) (chunk : List Nat) (pos : Nat) : Abs × String × Nat :=
  let rest := chunk.drop pos
  if c.needsEndCheck && rest.isEmpty then (a, if c.emptyFails a.state then "FAIL" else "OK", pos)
  else c.feedFromA (rest.length + 2) a rest pos

def RtCtx.endCallA (c : RtCtx) (a : Abs) : Abs × String :=
  let (a', l) := c.runTreeA (c.M.call c.semOpts a.state symEnd) a
  match l with
  | .next s _ => ({ a' with state := s }, "WEIRD")
  | .ret code st _ => ({ a' with state := st }, code)
  | .yielded code st _ => ({ a' with state := st }, "YIELD_" ++ code)

/-- Every expression of every call tree is one the storage-free semantics can evaluate (symbols
    below 257): no index read, or the indexing is bounds-checked. -/
def RtCtx.CallsTreeOK (c : RtCtx) : Prop :=
  ∀ (s : Int) (x : Nat), x < nSym → treeOK c.ro.unsafeIdx (c.M.call c.semOpts s x) = true

/-- the hypothesis on index expressions: there are none, or they are bounds-checked -/
def RtCtx.IdxOK (c : RtCtx) : Prop := c.idxFreeCheck = true ∨ c.ro.unsafeIdx = false

theorem callsTreeOK_of_idxOK (c : RtCtx) (h : c.IdxOK) : c.CallsTreeOK := by
  intro s x hx
  refine treeOK_of_idxFree_or_checked _ _ (h.imp_left fun h => ?_)
  simp only [RtCtx.idxFreeCheck, Bool.and_eq_true, List.all_eq_true, List.mem_range] at h
  exact c.M.call_cases c.semOpts x (P := fun _ t => treeIdxFree t = true)
    (fun n hn => h.1 n hn x hx) (fun _ _ => rfl) s

theorem startTreeOK_of_idxOK (c : RtCtx) (h : c.IdxOK) : treeOK c.ro.unsafeIdx c.startTree = true := by
  refine treeOK_of_idxFree_or_checked _ _ (h.imp_left fun h => ?_)
  simp only [RtCtx.idxFreeCheck, Bool.and_eq_true] at h
  exact h.2

theorem feedFrom_abs (c : RtCtx) (hs : c.SizesOK) (hg : c.CallsGuarded) (hf : c.CallsTreeOK) :
    ∀ (fuel : Nat) (σ : CState) (a : Abs) (rest : List Nat) (pos : Nat), (∀ b ∈ rest, b < nSym) → Refines c σ a →
      Refines c (c.feedFrom fuel σ rest pos).1 (c.feedFromA fuel a rest pos).1 ∧
      (c.feedFrom fuel σ rest pos).2 = (c.feedFromA fuel a rest pos).2 := by
  intro fuel
  induction fuel with
  | zero => intro σ a rest pos _ h; exact ⟨h.addFault _, rfl⟩
  | succ fuel ih =>
    intro σ a rest pos hb h
    cases rest with
    | nil => exact ⟨h.addFault _, rfl⟩
    | cons b rest' =>
      have hbn : b < nSym := hb b List.mem_cons_self
      obtain ⟨σ', a', l, e, eA, hr⟩ := h.runTree hs false _ (hg σ.state b hbn) (hf σ.state b hbn)
      simp only [RtCtx.feedFrom, RtCtx.feedFromA, h.state, e, eA]
      cases l with
      | next s adv =>
        simp only []
        split
        · split
          · exact ⟨(hr.setState s).addFault _, rfl⟩
          · exact ⟨hr.setState s, rfl⟩
        · exact ih _ _ _ _ (fun y hy => hb y (List.mem_of_mem_drop hy)) (hr.setState s)
      | ret code st adv | yielded code st adv => exact ⟨hr.setState st, rfl⟩

theorem feed_abs (c : RtCtx) (hs : c.SizesOK) (hg : c.CallsGuarded) (hf : c.CallsTreeOK)
    {σ : CState} {a : Abs} (chunk : List Nat) (pos : Nat) (hb : ∀ b ∈ chunk, b < nSym) (h : Refines c σ a) :
    Refines c (c.feed σ chunk pos).1 (c.feedA a chunk pos).1 ∧ (c.feed σ chunk pos).2 = (c.feedA a chunk pos).2 := by
  simp only [RtCtx.feed, RtCtx.feedA, h.state]
  split
  · exact ⟨h, rfl⟩
  · exact feedFrom_abs c hs hg hf _ σ a _ pos (fun y hy => hb y (List.mem_of_mem_drop hy)) h

theorem endCall_abs (c : RtCtx) (hs : c.SizesOK) (hg : c.CallsGuarded) (hf : c.CallsTreeOK)
    {σ : CState} {a : Abs} (h : Refines c σ a) :
    Refines c (c.endCall σ).1 (c.endCallA a).1 ∧ (c.endCall σ).2 = (c.endCallA a).2 := by
  have hx : symEnd < nSym := by decide
  obtain ⟨σ', a', l, e, eA, hr⟩ := h.runTree hs false _ (hg σ.state symEnd hx) (hf σ.state symEnd hx)
  simp only [RtCtx.endCall, RtCtx.endCallA, h.state, e, eA]
  cases l <;> exact ⟨hr.setState _, rfl⟩

/-- The abstract store after the declarations' defaults: what it depends on of the memory the state
    struct occupied before is the old scalar values (outputs without default keep them) and the
    fault flag of the model. -/
def RtCtx.initA (c : RtCtx) (sc0 : Array Int) (f0 : Option String) : Abs where
  state := c.M.start
  scalars := Array.ofFn (n := c.M.outs.size) fun i =>
      let d := c.M.outs.getD i default
      match d.defInt with
      | some v => (d.ty.cty c.ro.u8 c.ro.packed).wrap v
      | none => sc0.getD i 0
  fault := f0
  nstr := c.M.outs.size
  content := fun i =>
    if i < c.M.outs.size then
      let d := c.M.outs.getD i default
      if d.ty.isBuf then (match d.defStr with | some bs => bs.map some | none => []) else []
    else []

def RtCtx.startA (c : RtCtx) (sc0 : Array Int) (f0 : Option String) : Abs × String :=
  let (a', l) := c.runTreeA c.startTree (c.initA sc0 f0)
  match l with
  | .ret code st _ => ({ a' with state := st }, code)
  | .yielded code st _ => ({ a' with state := st }, "YIELD_" ++ code)
  | .next st _ => ({ a' with state := st }, "OK")

theorem initBuf_content (c : RtCtx) (h : c.safeCheck = true) (σ0 : CState) (i : Nat) (hi : i < c.M.outs.size) :
    (c.initBuf σ0 i).content =
      (let d := c.M.outs.getD i default
       if d.ty.isBuf then (match d.defStr with | some bs => bs.map some | none => []) else []) := by
  by_cases hbuf : (c.M.outs.getD i default).ty.isBuf = true
  · obtain ⟨_, hc, hbytes⟩ := initBuf_fields c h σ0 i hi hbuf _ rfl
    simp only [StrBuf.content]
    rw [hc, if_pos hbuf]
    refine Eq.trans (b := ((c.M.outs.getD i default).defStr.getD []).map some) ?_ ?_
    · rw [← map_eq_range_map _ 0 some]
      exact List.map_congr_left fun k hk => hbytes k (List.mem_range.1 hk)
    · cases (c.M.outs.getD i default).defStr <;> rfl
  · rw [initBuf_of_not_buf c σ0 i hbuf]
    simp only [if_neg hbuf]
    rfl

theorem initStore_abs (c : RtCtx) (h : c.safeCheck = true) (σ0 : CState) :
    (c.initStore σ0).abs = c.initA σ0.scalars σ0.fault := by
  apply Abs.ext'
  · rfl
  · rfl
  · rfl
  · exact Array.size_ofFn
  · intro j
    show ((c.initStore σ0).str j).content = if j < c.M.outs.size then _ else []
    rw [initStore_str, apply_ite StrBuf.content]
    exact ite_congr rfl (initBuf_content c h σ0 j) fun _ => rfl

theorem start_abs (c : RtCtx) (hsafe : c.safeCheck = true) (hfree : c.IdxOK)
    (σ0 : CState) (hm : σ0.memFault = false) :
    Refines c (c.start σ0).1 (c.startA σ0.scalars σ0.fault).1 ∧
    (c.start σ0).2 = (c.startA σ0.scalars σ0.fault).2 := by
  have h0 : Refines c (c.initStore σ0) (c.initA σ0.scalars σ0.fault) :=
    ⟨initStore_inv c hsafe σ0 hm, initStore_abs c hsafe σ0⟩
  obtain ⟨σ', a', l, e, eA, hr⟩ := h0.runTree (sizesOK_of_safeCheck c hsafe) true _
    (startGuarded_of_safeCheck c hsafe) (startTreeOK_of_idxOK c hfree)
  simp only [RtCtx.start, RtCtx.startA, e, eA]
  cases l <;> exact ⟨hr.setState _, rfl⟩

/-! ### Sessions: any sequence of API calls -/

def RtCtx.apiStepA (c : RtCtx) (a : Abs) : ApiOp → Abs × String × Nat
  | .feed ch pos => c.feedA a ch pos
  | .endInput => ((c.endCallA a).1, (c.endCallA a).2, 0)

def RtCtx.runOpsA (c : RtCtx) : Abs → List ApiOp → Abs × List (String × Nat)
  | a, [] => (a, [])
  | a, op :: rest => ((c.runOpsA (c.apiStepA a op).1 rest).1, (c.apiStepA a op).2 :: (c.runOpsA (c.apiStepA a op).1 rest).2)

def RtCtx.sessionA (c : RtCtx) (sc0 : Array Int) (f0 : Option String) (ops : List ApiOp) :
    Abs × List (String × Nat) :=
  ((c.runOpsA (c.startA sc0 f0).1 ops).1, ((c.startA sc0 f0).2, 0) :: (c.runOpsA (c.startA sc0 f0).1 ops).2)

theorem apiStep_abs (c : RtCtx) (hs : c.SizesOK) (hg : c.CallsGuarded) (hf : c.CallsTreeOK)
    {σ : CState} {a : Abs} (op : ApiOp) (hb : op.bytesOK) (h : Refines c σ a) :
    Refines c (c.apiStep σ op).1 (c.apiStepA a op).1 ∧ (c.apiStep σ op).2 = (c.apiStepA a op).2 := by
  cases op with
  | feed ch pos => exact feed_abs c hs hg hf ch pos hb h
  | endInput => exact ⟨(endCall_abs c hs hg hf h).1, congrArg (·, 0) (endCall_abs c hs hg hf h).2⟩

theorem runOps_abs (c : RtCtx) (hs : c.SizesOK) (hg : c.CallsGuarded) (hf : c.CallsTreeOK) :
    ∀ (ops : List ApiOp) (σ : CState) (a : Abs), (∀ op ∈ ops, op.bytesOK) → Refines c σ a →
      Refines c (c.runOps σ ops).1 (c.runOpsA a ops).1 ∧ (c.runOps σ ops).2 = (c.runOpsA a ops).2
  | [], _, _, _, h => ⟨h, rfl⟩
  | op :: rest, σ, a, hb, h => by
    obtain ⟨hb0, hbr⟩ := List.forall_mem_cons.mp hb
    have s := apiStep_abs c hs hg hf op hb0 h
    have k := runOps_abs c hs hg hf rest _ _ hbr s.1
    exact ⟨k.1, by rw [RtCtx.runOps, RtCtx.runOpsA, s.2, k.2]⟩

/-- **Refinement to the storage-free semantics.**  For a machine passing `safeCheck` whose index
    expressions are bounds-checked or absent (`IdxOK`), whatever the storage options, whatever
    memory the state struct occupied, for every sequence of API calls after `start()` — `feed` on
    any chunk from any cursor position, `end` — every call returns the code and cursor the abstract
    semantics returns, and the observable content of the state struct (state number, scalars, each
    buffer's length and bytes below its length) is the abstract store; no memory fault occurs on
    the way. -/
theorem C12_session_refines (c : RtCtx) (hsafe : c.safeCheck = true) (hfree : c.IdxOK)
    (σ0 : CState) (hm : σ0.memFault = false) (ops : List ApiOp) (hb : ∀ op ∈ ops, op.bytesOK) :
    (c.session σ0 ops).1.abs = (c.sessionA σ0.scalars σ0.fault ops).1 ∧
    (c.session σ0 ops).2 = (c.sessionA σ0.scalars σ0.fault ops).2 ∧
    (c.session σ0 ops).1.memFault = false := by
  have s := start_abs c hsafe hfree σ0 hm
  have k := runOps_abs c (sizesOK_of_safeCheck c hsafe) (callsGuarded_of_safeCheck c hsafe)
    (callsTreeOK_of_idxOK c hfree) ops _ _ hb s.1
  exact ⟨k.1.abs_eq, by rw [RtCtx.session, RtCtx.sessionA, s.2, k.2], k.1.inv.1⟩

/-! ### The abstract semantics does not mention the storage options -/

def RtCtx.withStorage (c : RtCtx) (d o f : Bool) : RtCtx :=
  { M := c.M, ro := { c.ro with dynamic := d, onDemand := o, deleteFrees := f } }

/-- (`applyEvA` and `answerA` do not recurse: that they ignore the storage options is `rfl`.) -/
theorem runTreeA_storage (c : RtCtx) (d o f : Bool) : (c.withStorage d o f).runTreeA = c.runTreeA := by
  funext t
  induction t with
  | emit ev k ih => funext a; exact congrFun ih _
  | ask q kt kf iht ihf => funext a; simp only [RtCtx.runTreeA, iht, ihf]; rfl
  | leaf l => rfl

theorem feedFromA_storage (c : RtCtx) (d o f : Bool) : (c.withStorage d o f).feedFromA = c.feedFromA := by
  funext fuel
  induction fuel with
  | zero => rfl
  | succ fuel ih =>
    funext a rest pos
    cases rest with
    | nil => rfl
    | cons b rest' => simp only [RtCtx.feedFromA, runTreeA_storage, ih]; rfl

theorem apiStepA_storage (c : RtCtx) (d o f : Bool) : (c.withStorage d o f).apiStepA = c.apiStepA := by
  funext a op
  cases op with
  | feed ch pos => simp only [RtCtx.apiStepA, RtCtx.feedA, feedFromA_storage]; rfl
  | endInput => simp only [RtCtx.apiStepA, RtCtx.endCallA, runTreeA_storage]; rfl

theorem runOpsA_storage (c : RtCtx) (d o f : Bool) :
    ∀ (ops : List ApiOp) (a : Abs), (c.withStorage d o f).runOpsA a ops = c.runOpsA a ops := by
  intro ops
  induction ops with
  | nil => intro a; rfl
  | cons op rest ih => intro a; simp only [RtCtx.runOpsA, apiStepA_storage, ih]

theorem sessionA_storage (c : RtCtx) (d o f : Bool) (sc0 : Array Int) (f0 : Option String)
    (ops : List ApiOp) : (c.withStorage d o f).sessionA sc0 f0 ops = c.sessionA sc0 f0 ops := by
  simp only [RtCtx.sessionA, RtCtx.startA, runTreeA_storage, runOpsA_storage]
  rfl

theorem guardedB_storage (c : RtCtx) (d o f : Bool) (t : CTree) :
    guardedB (c.withStorage d o f) t = guardedB c t := by
  fun_induction guardedB c t <;> simp only [guardedB, *] <;> rfl

theorem safeCheck_storage (c : RtCtx) (d o f : Bool) : (c.withStorage d o f).safeCheck = c.safeCheck := by
  simp only [RtCtx.safeCheck, guardedB_storage]
  rfl

theorem idxFreeCheck_storage (c : RtCtx) (d o f : Bool) :
    (c.withStorage d o f).idxFreeCheck = c.idxFreeCheck := rfl

/-- **Where strings live never changes what is parsed.**  Take a machine passing `safeCheck` whose
    index expressions are bounds-checked or absent (`IdxOK`), any two settings of the storage
    options (in the struct, on the heap, on the heap on demand, freed on delete), any two initial
    memories of the state struct that agree on the scalar outputs, and any sequence of API calls:
    every call returns the same code and the same cursor under both settings, and after every such
    sequence the state number, the scalar outputs, and the length and content of every string / raw
    output are the same.  (Hooks read exactly that part of the struct, and the hook events are
    part of the common call trees.) -/
theorem C12_storage_independent (c : RtCtx) (d o f : Bool)
    (hsafe : c.safeCheck = true) (hfree : c.IdxOK)
    (σ0 σ0' : CState) (hm : σ0.memFault = false) (hm' : σ0'.memFault = false)
    (hsc : σ0.scalars = σ0'.scalars) (hfa : σ0.fault = σ0'.fault)
    (ops : List ApiOp) (hb : ∀ op ∈ ops, op.bytesOK) :
    ((c.withStorage d o f).session σ0' ops).2 = (c.session σ0 ops).2 ∧
    ((c.withStorage d o f).session σ0' ops).1.abs = (c.session σ0 ops).1.abs := by
  obtain ⟨h1, h2, _⟩ := C12_session_refines c hsafe hfree σ0 hm ops hb
  obtain ⟨k1, k2, _⟩ := C12_session_refines (c.withStorage d o f)
    (by rw [safeCheck_storage]; exact hsafe) hfree σ0' hm' ops hb  -- (`IdxOK` mentions no storage option: `hfree` as it is)
  rw [sessionA_storage, ← hsc, ← hfa] at k1 k2
  exact ⟨k2.trans h2.symm, k1.trans h1.symm⟩

end Nmfu
