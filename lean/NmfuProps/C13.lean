/-
  C13 — macros behave exactly like their textual expansion (behavioural part).

  The machine compiled from the program with macros and the machine compiled from its expansion
  (produced by an expander independent of nmfu's binding code) are compared by the equivalence
  certificate; the theorem is its soundness at the two machines: same events on every input under
  every outcome of every data test.  Of the binding mechanism, the stack walk that looks a name up
  is modelled and proved textual in C13Lookup.lean; binding at the call (`bind_arguments_for`,
  early / late binding) is not modelled: equality of verdicts and the diagnosed-error cases are
  evaluated on the implementation by harness/check_C13.py.
-/
import NmfuProps.C05
namespace Nmfu

theorem C13_expansion_equivalent (withMacros expanded : Machine) (o : SemOpts) (V : List (PS Nat Nat AEv Quest))
    (h : certOK (withMacros.sm o) (expanded.sm o) nSym V = true) (ω : Oracle AEv Quest) (w : List Nat)
    (hw : ∀ x ∈ w, x < nSym) :
    Comparable ((withMacros.sm o).events ω w) ((expanded.sm o).events ω w) ∧
    ((withMacros.sm o).finalCfg ω w = none → (expanded.sm o).finalCfg ω w = none →
      (withMacros.sm o).events ω w = (expanded.sm o).events ω w) :=
  C05_optimised_equivalent withMacros expanded o V h ω w hw

end Nmfu
