/-
  C13 — the binding mechanism, name by name.

  Textual expansion of a call `m(args)` replaces, in the body of `m`, every occurrence of a
  parameter by its argument; a name the body uses that is not a parameter of `m` stays in the text
  and means whatever it means where the call stands (a parameter of the calling macro, or a global).
  `C13_lookup_is_textual` says the stack walk of `_lookup_named_entity` computes exactly that: the
  frame of the innermost call decides if it mentions the name at all — its binding under the kind
  asked for, or an undefined reference when the macro binds the name under another kind — and
  otherwise the answer is the answer in the context of the call (the rest of the stack).  Bound
  values are never looked up again (`bind_arguments_for` resolves arguments in the caller's context
  when the call is made), so this is the whole story for one name.
-/
import NmfuModel.MacroLookup
namespace Nmfu

theorem C13_lookup_is_textual (globals : List (Nat × String)) (stack : List MFrame) (f : MFrame)
    (k : Nat) (x : String) :
    lookStack globals (stack ++ [f]) k x = (frameLook f k x).getD (lookStack globals stack k x) := by
  simp only [lookStack, List.reverse_append, List.reverse_cons, List.reverse_nil, List.nil_append,
    List.cons_append, lookRev]
  cases frameLook f k x <;> rfl

/-- a call whose macro does not mention the name is transparent for it -/
theorem C13_lookup_transparent (globals : List (Nat × String)) (stack : List MFrame) (f : MFrame)
    (k : Nat) (x : String) (h : ∀ e ∈ f, e.1.2 ≠ x) :
    lookStack globals (stack ++ [f]) k x = lookStack globals stack k x := by
  rw [C13_lookup_is_textual]
  have h1 : f.find? (fun e => e.1.1 == k && e.1.2 == x) = none :=
    List.find?_eq_none.2 fun e he => by simp [h e he]
  have h2 : f.any (fun e => e.1.2 == x) = false := List.any_eq_false.2 fun e he => by simp [h e he]
  simp [frameLook, h1, h2]

/-- the innermost binding under the kind asked for wins, whatever the callers bind -/
theorem C13_lookup_innermost_wins (globals : List (Nat × String)) (stack : List MFrame) (f : MFrame)
    (k : Nat) (x : String) (v : Nat) (e : (Nat × String) × Nat)
    (h : f.find? (fun e => e.1.1 == k && e.1.2 == x) = some e) (hv : e.2 = v) :
    lookStack globals (stack ++ [f]) k x = .val v := by
  rw [C13_lookup_is_textual]
  simp [frameLook, h, hv]

/-- a parameter of the innermost macro shadows every other meaning of its name -/
theorem C13_parameter_shadows (globals : List (Nat × String)) (stack : List MFrame) (f : MFrame)
    (k : Nat) (x : String)
    (h1 : f.find? (fun e => e.1.1 == k && e.1.2 == x) = none) (h2 : f.any (fun e => e.1.2 == x) = true) :
    lookStack globals (stack ++ [f]) k x = .undefined := by
  rw [C13_lookup_is_textual]
  simp [frameLook, h1, h2]

/-- non-vacuity: a pass-through (`two(y, …)` inside `one(out y)`) and a shadowing parameter -/
example : lookStack [(1, "a"), (4, "h")] [[((1, "y"), 7)], [((1, "x"), 7), ((10, "e"), 9)]] 1 "x" = .val 7 := by decide
example : lookStack [(1, "a"), (4, "h")] [[((1, "y"), 7)], [((1, "x"), 7), ((10, "e"), 9)]] 1 "y" = .val 7 := by decide
example : lookStack [(1, "a"), (4, "h")] [[((1, "y"), 7)], [((4, "a"), 3)]] 1 "a" = .undefined := by decide
example : lookStack [(1, "a"), (4, "h")] [[((1, "y"), 7)]] 1 "a" = .global "a" := by decide
example : lookStack [(1, "a"), (4, "h")] [] 10 "a" = .undefined := by decide

end Nmfu
