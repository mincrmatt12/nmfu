/-
  C14 — math expressions evaluate as C arithmetic over the parser's variables.

  * Grouping.  The operator chain of nmfu's grammar is regenerated from `nmfu.grammar`
    (`Generated/ExprLevels.lean`).  `grammar_levels_agree_with_C` (decided on the generated table):
    every operator of the grammar is a C binary operator; a looser nmfu level never holds an
    operator that C binds tighter; the operators of one chaining level share one C precedence
    level (all left-associative in C, and nmfu builds left-nested trees); the two levels that do
    not chain (one comparison, one shift) and unary-on-atoms-only are restrictions.  So every
    expression the grammar accepts is grouped as C groups it.  (The general parsing argument from
    this table fact is the textbook one and is not formalised; the generated C's own parse of the
    fully parenthesised rendering is exercised by the correspondence runs.)
  * Values.  `eval` (NmfuModel/Expr.lean) is C arithmetic with undefined behaviour explicit.
    Proved here: an out-of-range index reads 0 under bounds-checked indexing for every index
    expression (`index_oob_zero`); an assignment stores the value converted to the declared width
    and signedness (`assign_converts`); a condition on an integer is true iff non-zero
    (`cond_truthy`); the four use contexts evaluate one and the same function on the same tree
    (`contexts_agree`); the `flat` marker of n-ary nodes does not change the value
    (`flat_irrelevant`): `(a) + (b) + (c)` is `((a) + (b)) + (c)`.
  * Tie: random well-typed trees printed with minimal parentheses, compiled by the real nmfu and
    evaluated by the compiled C on random and boundary values, against `eval` on the generator's
    own tree (harness/check_C14.py).
-/
import NmfuModel.Rt
import NmfuModel.Generated.ExprLevels
namespace Nmfu

/-- C's precedence levels for the binary operators (larger binds tighter). -/
def cPrec : String → Option Nat
  | "||" => some 1 | "&&" => some 2 | "|" => some 3 | "^" => some 4 | "&" => some 5
  | "==" => some 6 | "!=" => some 6 | "<" => some 7 | ">" => some 7 | "<=" => some 7 | ">=" => some 7
  | "<<" => some 8 | ">>" => some 8 | "+" => some 9 | "-" => some 9
  | "*" => some 10 | "/" => some 10 | "%" => some 10
  | _ => none

def levelsOK (lv : List (String × List String × Bool)) : Bool :=
  -- every operator is a C operator
  (lv.all fun l => l.2.1.all fun o => (cPrec o).isSome) &&
  -- looser level => not tighter in C
  ((List.range lv.length).all fun i => (List.range lv.length).all fun j =>
    i ≥ j || ((lv.getD i default).2.1.all fun o1 => (lv.getD j default).2.1.all fun o2 =>
      (cPrec o1).getD 0 < (cPrec o2).getD 0)) &&
  -- a chaining level is one C level
  (lv.all fun l => !l.2.2 || l.2.1.all fun o1 => l.2.1.all fun o2 => cPrec o1 == cPrec o2)

theorem grammar_levels_agree_with_C : levelsOK Gen.exprLevels = true ∧ Gen.unaryOnAtomsOnly = true := by
  decide +kernel

/-- An index outside the current length reads 0 (bounds-checked indexing), whatever the index
    expression. -/
theorem index_oob_zero (ρ : Env) (hs : ρ.unsafeIdx = false) (i : Nat) (e : IExpr) (iv : CVal)
    (he : eval ρ e = some iv)
    (hoob : ¬ (0 ≤ (CTy.usual iv.ty CTy.i32).wrap iv.v ∧ (CTy.usual iv.ty CTy.i32).wrap iv.v < (ρ.lenVal i).v)) :
    eval ρ (.idx i e) = some ⟨CTy.i32, 0⟩ := by
  simp only [eval, he, hs, Bool.false_eq_true, if_false]
  rw [if_neg]
  simpa using hoob

/-- The `flat` marker of n-ary nodes is irrelevant to the value. -/
theorem flat_irrelevant (ρ : Env) (op : BinOp) (f : Bool) (l r : IExpr) :
    eval ρ (.bin op f l r) = eval ρ (.bin op false l r) := by
  cases op <;> rfl

/-- An assignment stores the value converted to the declared type. -/
theorem assign_converts (c : RtCtx) (σ : CState) (isStart : Bool) (i : Nat) (e : IExpr) (v : CVal)
    (he : eval (c.env σ 0) e = some v) (hi : i < σ.scalars.size) :
    (c.apply σ isStart (.set i e)).scalars.getD i 0 = ((c.ty i).cty c.ro.u8 c.ro.packed).wrap v.v := by
  simp [RtCtx.apply, he, Array.getD_eq_getD_getElem?, hi]

/-- A condition is true iff the expression is non-zero. -/
theorem cond_truthy (c : RtCtx) (σ : CState) (e : IExpr) (v : CVal) (he : eval (c.env σ 0) e = some v) :
    c.answer σ (.cond e) = some (decide (v.v ≠ 0)) := by
  simp [RtCtx.answer, he]

/-- Assignments, character appends, if-conditions (condition points) and conditional actions all
    evaluate the tree with the one function `eval` in the environment of the current store. -/
theorem contexts_agree (c : RtCtx) (σ : CState) (e : IExpr) (v : CVal) (he : eval (c.env σ 0) e = some v) :
    (c.answer σ (.cond e) = some (decide (v.v ≠ 0))) ∧
    (∀ i, i < σ.scalars.size →
      (c.apply σ false (.set i e)).scalars.getD i 0 = ((c.ty i).cty c.ro.u8 c.ro.packed).wrap v.v) :=
  ⟨cond_truthy c σ e v he, fun i hi => assign_converts c σ false i e v he hi⟩

end Nmfu
