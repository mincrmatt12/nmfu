/-
  C15 — literals denote exactly the bytes and values they spell.

  * The hand models of the conversion functions (`NmfuModel/Lit.lean`) agree with the graphs of the
    real functions, re-extracted on every run on their whole one-character domains
    (`Generated/Lits.lean`): `graph_*` below, decided by the kernel.
  * `convertString_spelled`: every byte string has a spelling (`\xHH` per byte) that the reader
    turns back into exactly those bytes; the one-character escapes are exactly
    `\n \r \t \b \0 \" \\` with their C values; a character that is not a backslash denotes
    itself, at every position.
  * `escape_roundtrip`: for **every** byte string, what a C compiler lexes from the emitted string
    constant is that byte string — same bytes, same length — whatever follows a non-printable
    byte (the escaper writes every byte outside printable ASCII, bytes >= 0x80 included, as a
    three-digit octal escape: a hexadecimal escape would absorb following hex digits; the repairs
    are recorded in known_findings.json).
  * Character and integer literals: `'\0'` is NUL, the other escapes as in C; decimal, `0x`, `0b`
    with sign.
  That a literal *match* accepts exactly its byte sequence (either case of ASCII letters for the
  case-insensitive form) and fails at the first differing byte is decided per literal by the
  regular-expression acceptance check (a literal is the regex of its singleton / case-pair
  classes), see C07; `caseFold_spec` pins the classes.
-/
import NmfuModel.Lit
import NmfuModel.Generated.Lits
namespace Nmfu

/-! ### Generated graphs = hand models

Each generated table is the hand model mapped over `0..255`, decided by the kernel as one
comparison of two lists; the `graph_*` statements read the table entry by entry from that.
(Deciding them directly, entry by entry, walks the table with `getD` once per index, which is
many times the work.) -/

theorem getD_map_range {α : Type} (f : Nat → α) {n c : Nat} (h : c < n) (d : α) :
    ((List.range n).map f).getD c d = f c := by
  simp [List.getD_eq_getElem?_getD, h]

theorem stringEscape_eq : Gen.stringEscape = (List.range 256).map simpleEscape? := by
  decide +kernel

theorem charConstEscape_eq :
    Gen.charConstEscape = (List.range 256).map fun c => convertCharConst [92, c] := by
  decide +kernel

theorem charConstRaw_eq : Gen.charConstRaw = (List.range 256).map fun c => convertCharConst [c] := by
  decide +kernel

theorem caseFoldTable_eq : Gen.caseFoldTable = (List.range 256).map caseFoldSorted := by
  decide +kernel

theorem escapeBytes_eq : Gen.escapeBytes = (List.range 256).map escapeByte := by decide +kernel

theorem escapeStr_eq : Gen.escapeStr = Gen.escapeBytes := by decide +kernel

theorem graph_stringEscape :
    ∀ c, c < 256 → c ≠ 120 → c ≠ 117 → Gen.stringEscape.getD c none = simpleEscape? c :=
  fun _ hc _ _ => stringEscape_eq ▸ getD_map_range _ hc _

theorem graph_charConst :
    ∀ c, c < 256 → (Gen.charConstEscape.getD c none = convertCharConst [92, c] ∧
                    Gen.charConstRaw.getD c none = convertCharConst [c]) :=
  fun _ hc => ⟨charConstEscape_eq ▸ getD_map_range _ hc _, charConstRaw_eq ▸ getD_map_range _ hc _⟩

theorem graph_caseFold : ∀ c, c < 256 → Gen.caseFoldTable.getD c [] = caseFoldSorted c :=
  fun _ hc => caseFoldTable_eq ▸ getD_map_range _ hc _

theorem graph_escape :
    ∀ b, b < 256 → (Gen.escapeBytes.getD b [] = escapeByte b ∧ Gen.escapeStr.getD b [] = escapeByte b) :=
  fun _ hb =>
    have h := escapeBytes_eq ▸ getD_map_range escapeByte hb []
    ⟨h, escapeStr_eq ▸ h⟩

/-! ### Reading string literals -/

def hexChar (v : Nat) : Nat := if v < 10 then 48 + v else 87 + v

def spellByte (b : Nat) : List Nat := [92, 120, hexChar (b / 16), hexChar (b % 16)]

theorem hexVal_hexChar : ∀ v, v < 16 → hexVal? (hexChar v) = some v := by decide

/-- Every byte string can be spelled, and the reader returns exactly those bytes. -/
theorem convertString_spelled (bs : List Nat) (h : ∀ b ∈ bs, b < 256) :
    convertString (bs.flatMap spellByte) = some bs := by
  induction bs with
  | nil => rfl
  | cons b rest ih =>
    obtain ⟨hb, hr⟩ := List.forall_mem_cons.mp h
    have ih' := ih hr
    simp only [List.flatMap_cons, spellByte, List.cons_append, List.nil_append, convertString]
    rw [hexVal_hexChar _ (by omega), hexVal_hexChar _ (by omega), ih']
    simp; omega

/-- A character other than the backslash denotes itself (at any position). -/
theorem convertString_raw (c : Nat) (rest : List Nat) (hc : c ≠ 92) :
    convertString (c :: rest) = (convertString rest).map (c :: ·) := by
  -- the last equation of `convertString` applies: the others start with a backslash
  rw [convertString]
  · cases convertString rest <;> rfl
  all_goals intros; contradiction

/-- The one-character escapes and their values: exactly `\n \r \t \b \0 \" \\`. -/
theorem simpleEscape_spec :
    simpleEscape? 110 = some 10 ∧ simpleEscape? 114 = some 13 ∧ simpleEscape? 116 = some 9 ∧
    simpleEscape? 98 = some 8 ∧ simpleEscape? 48 = some 0 ∧ simpleEscape? 34 = some 34 ∧
    simpleEscape? 92 = some 92 ∧
    (∀ c, c < 256 → c ∉ [110, 114, 116, 98, 48, 34, 92] → simpleEscape? c = none) := by
  refine ⟨rfl, rfl, rfl, rfl, rfl, rfl, rfl, fun c _ h => ?_⟩
  simp only [List.mem_cons, List.not_mem_nil, or_false, not_or] at h
  simp only [simpleEscape?, h, if_false]

/-! ### Writing string constants -/

theorem lexOne_plain (c : Nat) (rest : List Nat) (h92 : c ≠ 92) (h34 : c ≠ 34) (h10 : c ≠ 10) :
    lexOne (c :: rest) = some (c, rest) := by
  simp [lexOne, h92, h34, h10]

theorem lexOne_octal3 (a b c : Nat) (ha : a < 4) (hb : b < 8) (hc : c < 8) (rest : List Nat) :
    lexOne (92 :: (48 + a) :: (48 + b) :: (48 + c) :: rest) = some (64 * a + 8 * b + c, rest) := by
  have oct : ∀ d, d < 8 → isOct (48 + d) = true := by simp [isOct]; omega
  have hx : 48 + a ≠ 120 := by omega
  simp [lexOne, oct a (by omega), oct b hb, oct c hc, hx]
  omega

theorem lexOne_escapeByte (b : Nat) (hb : b < 256) (rest : List Nat) :
    lexOne (escapeByte b ++ rest) = some (b, rest) := by
  unfold escapeByte
  split
  · next h => rcases h with rfl | rfl | rfl <;> rfl
  · split
    · exact lexOne_plain b rest (by omega) (by omega) (by omega)
    · simp only [List.cons_append, List.nil_append]
      rw [lexOne_octal3 _ _ _ (by omega) (by omega) (by omega)]
      congr; omega

theorem cLexF_escapeByte (b : Nat) (hb : b < 256) (rest : List Nat) (fuel : Nat) :
    cLexF (fuel + 1) (escapeByte b ++ rest) = (cLexF fuel rest).map (b :: ·) := by
  have hne : (escapeByte b ++ rest).isEmpty = false := by
    unfold escapeByte; split <;> (try split) <;> simp
  simp only [cLexF, hne, Bool.false_eq_true, if_false, lexOne_escapeByte b hb rest]

/-- What C lexes from an emitted constant followed by anything: the bytes, then what it lexes from the rest. -/
theorem cLexF_escapeString (bs : List Nat) (h : ∀ b ∈ bs, b < 256) (rest : List Nat) (fuel : Nat) :
    cLexF (bs.length + fuel) (escapeString bs ++ rest) = (cLexF fuel rest).map (bs ++ ·) := by
  induction bs with
  | nil => rw [List.length_nil, Nat.zero_add]; exact Option.map_id'.symm
  | cons b bs ih =>
    obtain ⟨hb, hr⟩ := List.forall_mem_cons.mp h
    rw [escapeString, List.flatMap_cons, List.append_assoc, List.length_cons, Nat.add_right_comm,
      cLexF_escapeByte b hb _ _, ← escapeString, ih hr, Option.map_map]
    rfl

/-- **What C lexes from an emitted string constant is the byte string itself**, for every byte
    string. -/
theorem escape_roundtrip (bs : List Nat) (h : ∀ b ∈ bs, b < 256) :
    ∀ fuel, bs.length < fuel → cLexF fuel (escapeString bs) = some bs := by
  intro fuel hf
  obtain ⟨k, rfl⟩ : ∃ k, fuel = bs.length + (k + 1) := ⟨fuel - bs.length - 1, by omega⟩
  have := cLexF_escapeString bs h [] (k + 1)
  rwa [List.append_nil, show cLexF (k + 1) [] = some [] from rfl, Option.map_some, List.append_nil] at this

/-- The length the emitted `memcpy` copies (`len(value)`, plus one for the terminator) is the
    length of what C lexes. -/
theorem escape_length (bs : List Nat) (h : ∀ b ∈ bs, b < 256) :
    (cLexF (bs.length + 1) (escapeString bs)).map List.length = some bs.length := by
  rw [escape_roundtrip bs h _ (by omega)]; rfl

/-- A hexadecimal escape absorbs following hex digits: `\x0aab` is ONE (out of range) escape in C, not
    the three bytes of `"\nab"`; what the escaper emits for them is read back exactly. -/
example : cLex [92, 120, 48, 97, 97, 98] = none := by decide
example : cLex (escapeString [10, 97, 98]) = some [10, 97, 98] := by decide

/-! ### Character and integer literals, case folding -/

theorem charConst_spec :
    convertCharConst [92, 48] = some 0 ∧ convertCharConst [92, 110] = some 10 ∧
    convertCharConst [92, 114] = some 13 ∧ convertCharConst [92, 116] = some 9 ∧
    convertCharConst [92, 98] = some 8 ∧ convertCharConst [92, 39] = some 39 ∧
    convertCharConst [92, 92] = some 92 ∧ (∀ c, c < 256 → convertCharConst [c] = some c) :=
  ⟨rfl, rfl, rfl, rfl, rfl, rfl, rfl, fun _ _ => rfl⟩

/-- Integer literals: the digits in their base, with the sign. -/
theorem convertInt_examples :
    convertInt ("255".toList.map Char.toNat) = some 255 ∧
    convertInt ("-17".toList.map Char.toNat) = some (-17) ∧
    convertInt ("+9".toList.map Char.toNat) = some 9 ∧
    convertInt ("0x1F".toList.map Char.toNat) = some 31 ∧
    convertInt ("-0x10".toList.map Char.toNat) = some (-16) ∧
    convertInt ("0b101".toList.map Char.toNat) = some 5 := by
  decide +kernel

theorem digitsVal_append (base : Nat) (ds : List Nat) (d acc : Nat) :
    digitsVal base (ds ++ [d]) acc =
      match digitsVal base ds acc, hexVal? d with
      | some v, some x => if x < base then some (base * v + x) else none
      | _, _ => none := by
  induction ds generalizing acc with
  | nil => simp only [List.nil_append, digitsVal]; cases hexVal? d <;> simp
  | cons c rest ih =>
    simp only [List.cons_append, digitsVal]
    cases hexVal? c with
    | none => simp
    | some v =>
      simp only
      split
      · exact ih _
      · simp

/-- A case-insensitive literal accepts, at each position, the letter in either case and nothing
    else; other bytes only themselves. -/
theorem caseFold_spec (c x : Nat) :
    x ∈ caseFold c ↔ (x = c ∨ (97 ≤ c ∧ c ≤ 122 ∧ x + 32 = c) ∨ (65 ≤ c ∧ c ≤ 90 ∧ x = c + 32)) := by
  unfold caseFold
  split
  · simp only [List.mem_cons, List.not_mem_nil, or_false]; omega
  · split
    · simp only [List.mem_cons, List.not_mem_nil, or_false]; omega
    · simp only [List.mem_cons, List.not_mem_nil, or_false]; omega

theorem caseFold_sorted_same (c x : Nat) : x ∈ caseFoldSorted c ↔ x ∈ caseFold c := by
  unfold caseFoldSorted caseFold
  split
  · simp only [List.mem_cons, List.not_mem_nil, or_false]; omega
  · split <;> simp

end Nmfu
