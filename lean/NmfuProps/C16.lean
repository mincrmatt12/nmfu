/-
  C16 — wait never fails.

  In the reference semantics a running wait (`Frame.w`) answers every symbol, end-of-input
  included, by consuming it and staying in (or leaving) the wait, or by completing: no path of its
  step raises a mismatch, and so none enters a no-match handler or fails.  (The only condition a wait can raise is out-of-space, and only from the per-byte
  actions of an enclosing `foreach … do` that appends.)  With the equivalence certificate of
  NmfuProps/C01.lean this transfers to the compiled machine.
-/
import NmfuProps.C01
namespace Nmfu

/-- what a wait does with a symbol it consumes: nothing extra at end-of-input, the enclosing
    foreach's per-byte actions otherwise (out-of-space of those being the only raise) -/
def Src.waitConsume (c : Src.Ctx) (fuel : Nat) (pend : List AEv) (r0 r : Rx) (pc : PerChar)
    (rest : Kont) (K' : Kont) : STree :=
  if c.x = symEnd && !c.o.waitEndForeach then Src.flushT pend (.leaf (.next K'))
  else Src.flushT pend (Src.perCharTree c pc (.leaf (.next K')) (Src.raise c fuel [] true (.w r0 r pc :: rest)))

/-- `Src.disp` on a running wait, with what it does to a consumed symbol named: the symbol
    continues the pattern; or the pattern is complete; or the symbol restarts the pattern; or the
    pattern matches the empty string right here; or the symbol is skipped. -/
theorem Src.disp_w (c : Src.Ctx) (fuel : Nat) (pend : List AEv) (r0 r : Rx) (pc : PerChar)
    (rest : Kont) :
    Src.disp c (fuel + 1) pend (.w r0 r pc :: rest) =
      if (r.deriv c.x).alive then
        Src.waitConsume c fuel pend r0 r pc rest
          (if (r.deriv c.x).nullable && !(r.deriv c.x).canContinue then rest
           else .w r0 (r.deriv c.x) pc :: rest)
      else if r.nullable then Src.disp c fuel pend rest
      else if (r0.deriv c.x).alive then
        Src.waitConsume c fuel pend r0 r pc rest
          (if (r0.deriv c.x).nullable && !(r0.deriv c.x).canContinue then rest
           else .w r0 (r0.deriv c.x) pc :: rest)
      else if r0.nullable then Src.disp c fuel pend rest
      else Src.waitConsume c fuel pend r0 r pc rest (.w r0 r0 pc :: rest) := by
  rw [Src.disp]; rfl

/-- Dispatching any symbol on a continuation whose head is a running wait either consumes it
    (next configuration `K'`) or — when the pattern is complete here, possibly as the empty match
    at a restart — hands the symbol to what follows: the wait itself never raises a mismatch,
    whatever the symbol (end-of-input included) and whatever handlers enclose it. -/
theorem C16_wait_never_raises (c : Src.Ctx) (fuel : Nat) (pend : List AEv) (r0 r : Rx) (pc : PerChar)
    (rest : Kont) :
    (∃ K', Src.disp c (fuel + 1) pend (.w r0 r pc :: rest) = Src.waitConsume c fuel pend r0 r pc rest K') ∨
    Src.disp c (fuel + 1) pend (.w r0 r pc :: rest) = Src.disp c fuel pend rest := by
  rw [Src.disp_w]
  by_cases h1 : (r.deriv c.x).alive = true
  · rw [if_pos h1]; exact .inl ⟨_, rfl⟩
  rw [if_neg h1]
  by_cases h2 : r.nullable = true
  · rw [if_pos h2]; exact .inr rfl
  rw [if_neg h2]
  by_cases h3 : (r0.deriv c.x).alive = true
  · rw [if_pos h3]; exact .inl ⟨_, rfl⟩
  rw [if_neg h3]
  by_cases h4 : r0.nullable = true
  · rw [if_pos h4]; exact .inr rfl
  · rw [if_neg h4]; exact .inl ⟨_, rfl⟩

/-- Without an enclosing foreach a consumed symbol costs nothing and raises nothing. -/
theorem waitConsume_plain (c : Src.Ctx) (fuel : Nat) (pend : List AEv) (r0 r : Rx) (rest K' : Kont) :
    Src.waitConsume c fuel pend r0 r {} rest K' = Src.flushT pend (.leaf (.next K')) := by
  simp [Src.waitConsume, Src.perCharTree, Src.pcActs]

/-- A pattern that cannot match the empty string is only ever left by consuming: every symbol is
    consumed by the wait. -/
theorem C16_wait_consumes (c : Src.Ctx) (fuel : Nat) (pend : List AEv) (r0 r : Rx) (pc : PerChar)
    (rest : Kont) (hnn : r.nullable = false) (h0 : r0.nullable = false) :
    ∃ K', Src.disp c (fuel + 1) pend (.w r0 r pc :: rest) = Src.waitConsume c fuel pend r0 r pc rest K' := by
  rw [Src.disp_w, hnn, h0]
  by_cases h1 : (r.deriv c.x).alive = true
  · rw [if_pos h1]; exact ⟨_, rfl⟩
  rw [if_neg h1, if_neg Bool.false_ne_true]
  by_cases h3 : (r0.deriv c.x).alive = true
  · rw [if_pos h3]; exact ⟨_, rfl⟩
  · rw [if_neg h3, if_neg Bool.false_ne_true]; exact ⟨_, rfl⟩

end Nmfu
