/-
  C17 — end-of-input handling follows the EOF contract.

  On the machine / runtime model, for every machine: what `end()` does once the program has
  reached its end, and which transitions `feed` / `end()` can take on a data byte / on end-of-input.
  Which states the compiler makes accepting and which else transitions it emits is the compiler's
  business: harness/check_C17.py calls end() after every prefix of sampled inputs on the compiled
  binary and compares with the model, and evaluates two direct predicates on the binary.
-/
import NmfuProps.C06
namespace Nmfu

/-- Once the program has reached its end (an accepting state whose remaining transitions are only error
    handling) `end()` returns DONE, performs no action and leaves the state struct unchanged. -/
theorem C17_finished_end_is_done (c : RtCtx) (σ : CState)
    (hs : 0 ≤ σ.state ∧ σ.state.toNat < c.M.states.size)
    (hk : (c.M.st σ.state.toNat).kind = .normal)
    (hacc : (c.M.st σ.state.toNat).accepting = true)
    (herr : ∀ a ∈ (c.M.st σ.state.toNat).arms, a.err = true) :
    c.endCall σ = (σ, "DONE") := by
  have hcall := C06_accepting_ignores_error_arms c.M c.semOpts σ.state.toNat symEnd hs.2 hk hacc herr
  rw [Int.toNat_of_nonneg hs.1] at hcall
  simp [RtCtx.endCall, hcall, RtCtx.runTree]

/-- An arm listing only end-of-input is never selected for a data byte. -/
theorem C17_end_arm_never_on_byte (s : St) (x : Nat) (a : Arm) (hx : x < 256)
    (hon : a.on = [symEnd]) : s.feedArm x ≠ some a := by
  intro h
  have := (St.feedArm_spec h).2
  simp [hon, symEnd, onElse] at this
  omega

/-- `end()` only takes an arm that lists end-of-input or the else symbol. -/
theorem C17_byte_arm_never_on_end (s : St) (a : Arm) (h : s.endArm = some a) :
    a.on.contains symEnd = true ∨ a.on.contains onElse = true :=
  (St.endArm_spec h).2

/-- When the arm `end()` takes is a consuming else arm without actions whose target is not
    accepting (what `Machine.endArmsOK` demands of every arm that does not list end-of-input),
    `end()` performs no action at all and answers by the state it is in: data patterns do not
    match end-of-input. -/
theorem C17_data_never_matches_end (M : Machine) (o : SemOpts) (s : Nat) (a : Arm)
    (hs : s < M.states.size) (hk : (M.st s).kind = .normal) (harm : (M.st s).endArm = some a)
    (hfall : a.fall = false) (hacts : a.acts = .nil) (hacc : M.isAccepting a.target = false)
    (hne : ((M.st s).accepting && a.err) = false) :
    M.call o s symEnd =
      (if (M.st s).accepting then .leaf (.ret "DONE" (if a.target ≥ 0 then a.target else s) 0)
       else .leaf (.ret "FAIL" M.failTarget 0)) := by
  rw [M.call_normal o s symEnd hs hk, St.armOn_end, harm]
  simp [hne, Machine.armTree, Machine.immediateDone, hfall, hacts, hacc, Acts.tree,
    Acts.mayYield, fallOut]

end Nmfu
