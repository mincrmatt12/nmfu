/-
  C18 — the compiler always terminates with code or a diagnosed error (the part a model carries).

  Whole-compiler totality is explored by harness/check_C18.py (edge-case generation with
  wall-clock limits); the Lean side states totality, with the outcome class explicit, of the
  front-end functions that are modelled, and re-checks the generated graph of the integer-type
  selection:
  * `C18_convertString_diagnoses`: the string-literal reader fails only on a trailing backslash,
    an incomplete / non-hexadecimal `\x`, `\u`, or an unknown escape (the cases nmfu reports
    as parse errors), and succeeds on everything else — for every character sequence;
  * `C18_int_types_total`: every (signedness, size) pair the grammar can express selects a C type
    (no exception), on the graph regenerated from `_integer_containing`;
  * `C18_literals_total`: character constants of one character or one escaped character always
    convert.
-/
import NmfuModel.Lit
import NmfuModel.Generated.IntTypes
namespace Nmfu

/-- Does the sequence contain an escape the reader rejects? (mirror of the error cases) -/
def badEscape : List Nat → Bool
  | [] => false
  | 92 :: 120 :: h :: l :: rest => (hexVal? h).isNone || (hexVal? l).isNone || badEscape rest
  | 92 :: c :: rest => c = 120 || c = 117 || (simpleEscape? c).isNone || badEscape rest
  | [92] => true
  | _ :: rest => badEscape rest

theorem C18_convertString_diagnoses : ∀ (s : List Nat), (convertString s).isNone = badEscape s := by
  intro s
  -- `badEscape` has the five equations of `convertString`: case by case, with the same side conditions
  fun_induction badEscape s with
  | case1 => rfl
  | case2 h l rest ih =>
    rw [convertString, ← ih]
    cases hexVal? h <;> cases hexVal? l <;> cases convertString rest <;> rfl
  | case3 c rest hne ih =>
    rw [convertString, ← ih]
    · by_cases hc : c = 120 ∨ c = 117
      · rcases hc with rfl | rfl <;> rfl
      · rw [if_neg hc]
        have := not_or.1 hc
        cases simpleEscape? c <;> cases convertString rest <;> simp [this]
    · exact hne
  | case4 => rfl
  | case5 c rest h1 h2 h3 ih =>
    rw [convertString, ← ih]
    · cases convertString rest <;> rfl
    all_goals assumption

/-- Every size the grammar can express selects a C integer type. -/
theorem C18_int_types_total :
    (∀ r ∈ Gen.intTypeByWidth, r.2.2.isSome = true) ∧ (∀ r ∈ Gen.intTypeByMax, r.2.2.isSome = true) := by
  decide

theorem C18_literals_total : ∀ c, c < 256 → (convertCharConst [c]).isSome ∧ (convertCharConst [92, c]).isSome :=
  fun _ _ => ⟨rfl, rfl⟩

end Nmfu
