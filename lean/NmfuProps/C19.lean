/-
  C19 — command-line options resolve to a consistent configuration.

  General part (any flag table, any option sequence of any length):
  * `lastVal` reads an option list as a dict ("the last value given wins"); `normalize` is Python's
    dict update (`lastVal_normalize`);
  * every write into a flag map (`set`, `applyOverrides`, `applyLevels`) is a `mapVal`: it keeps the
    entries and their keys and changes each value as a function of its key, so what a write does to
    `get`, `has`, `lastVal` and the keys is read off one set of lemmas.
  Table part (the generated `Gen.flagTable`): for the flags related by implies / exclusive_with the
  consistency facts and, for two re-orderings, order independence are decided by the kernel over
  every assignment of each cluster, each cluster table resolved with its own recursion budgets.
  `C19Order.lean` has the theorems for every command line; they rest on sweeps of their own, with the
  whole table's budgets, since a projection onto a cluster keeps the budgets (C19Proj.lean).
-/
import NmfuModel.Cli
import NmfuModel.Generated.Flags
namespace Nmfu

/-- The last value given for `f` in an option sequence. -/
def lastVal : List (Nat × Bool) → Nat → Option Bool
  | [], _ => none
  | p :: rest, f => match lastVal rest f with
    | some v => some v
    | none => if p.1 = f then some p.2 else none

theorem lastVal_cons (p : Nat × Bool) (rest : List (Nat × Bool)) (f : Nat) :
    lastVal (p :: rest) f = (lastVal rest f).or (if p.1 = f then some p.2 else none) := by
  rw [lastVal]; cases lastVal rest f <;> rfl

theorem lastVal_append (l l' : List (Nat × Bool)) (f : Nat) :
    lastVal (l ++ l') f = (lastVal l' f).or (lastVal l f) := by
  induction l with
  | nil => simp [lastVal]
  | cons p rest ih => simp [lastVal_cons, ih, Option.or_assoc]

theorem has_iff_mem (m : FlagMap) (k : Nat) : m.has k = true ↔ k ∈ m.map (·.1) := by
  induction m with
  | nil => simp [FlagMap.has]
  | cons p rest ih => by_cases hp : p.1 = k <;> simp [FlagMap.has, hp, ih, Ne.symm]

theorem has_eq_lastVal (m : FlagMap) (k : Nat) : m.has k = (lastVal m k).isSome := by
  induction m with
  | nil => rfl
  | cons p rest ih => by_cases hp : p.1 = k <;> simp [FlagMap.has, lastVal_cons, hp, ih]

/-! ### Writes keep the keys and act on the values -/

def FlagMap.mapVal (h : Nat → Bool → Bool) (m : FlagMap) : FlagMap := m.map fun p => (p.1, h p.1 p.2)

theorem keys_mapVal (h : Nat → Bool → Bool) (m : FlagMap) : (m.mapVal h).map (·.1) = m.map (·.1) := by
  rw [FlagMap.mapVal, List.map_map]; rfl

theorem has_mapVal (h : Nat → Bool → Bool) (m : FlagMap) (k : Nat) : (m.mapVal h).has k = m.has k := by
  rw [Bool.eq_iff_iff, has_iff_mem, has_iff_mem, keys_mapVal]

theorem get_mapVal (h : Nat → Bool → Bool) (m : FlagMap) (f : Nat) :
    (m.mapVal h).get f = if m.has f then h f (m.get f) else m.get f := by
  induction m with
  | nil => rfl
  | cons p rest ih =>
    rw [FlagMap.mapVal] at ih ⊢
    by_cases hp : p.1 = f <;> simp [FlagMap.get, FlagMap.has, hp, ih]

theorem lastVal_mapVal (h : Nat → Bool → Bool) (m : FlagMap) (f : Nat) :
    lastVal (m.mapVal h) f = (lastVal m f).map (h f) := by
  induction m with
  | nil => rfl
  | cons p rest ih =>
    rw [FlagMap.mapVal] at ih ⊢
    rw [List.map_cons, lastVal_cons, lastVal_cons, ih]
    cases lastVal rest f <;> by_cases hp : p.1 = f <;> simp [hp]

theorem mapVal_mapVal (h h' : Nat → Bool → Bool) (m : FlagMap) :
    (m.mapVal h).mapVal h' = m.mapVal fun a b => h' a (h a b) := by
  simp [FlagMap.mapVal]

theorem mapVal_eq_self (h : Nat → Bool → Bool) (m : FlagMap) (hid : ∀ p ∈ m, h p.1 p.2 = p.2) :
    m.mapVal h = m := by
  refine (List.map_congr_left (g := id) fun p hp => ?_).trans (List.map_id m)
  rw [hid p hp]; rfl

theorem set_eq_mapVal (m : FlagMap) (k : Nat) (v : Bool) :
    m.set k v = m.mapVal fun a b => if a = k then v else b := by
  induction m with
  | nil => rfl
  | cons p rest ih =>
    rw [FlagMap.mapVal] at ih ⊢
    rw [FlagMap.set, ih, List.map_cons]
    congr 1
    split <;> simp [*]

theorem keys_set (m : FlagMap) (k : Nat) (v : Bool) : (m.set k v).map (·.1) = m.map (·.1) := by
  rw [set_eq_mapVal, keys_mapVal]

theorem has_set (m : FlagMap) (k k' : Nat) (v : Bool) : (m.set k' v).has k = m.has k := by
  rw [set_eq_mapVal, has_mapVal]

theorem get_set (m : FlagMap) (k f : Nat) (v : Bool) :
    (m.set k v).get f = if f = k ∧ m.has k = true then v else m.get f := by
  rw [set_eq_mapVal, get_mapVal]
  by_cases hk : f = k
  · subst hk; cases hh : m.has f <;> simp
  · simp [hk]

/-! ### `normalize` is the dict of the option sequence -/

/-- one update of the dict: the new value shadows the old one, whichever branch is taken -/
theorem lastVal_upsert (acc : FlagMap) (p : Nat × Bool) (f : Nat) :
    lastVal (if acc.has p.1 then acc.set p.1 p.2 else acc ++ [p]) f
      = (if p.1 = f then some p.2 else none).or (lastVal acc f) := by
  split
  · next hh =>
    rw [set_eq_mapVal, lastVal_mapVal]
    by_cases hp : p.1 = f
    · subst hp
      rw [has_eq_lastVal] at hh
      cases hl : lastVal acc p.1 <;> simp [hl] at hh ⊢
    · cases lastVal acc f <;> simp [hp, Ne.symm hp]
  · simp [lastVal_append, lastVal]

/-- **The override dict holds, for each flag, the last value given for it** — whatever the
    length of the option sequence and however often a flag is repeated. -/
theorem lastVal_normalize (ov : List (Nat × Bool)) (f : Nat) :
    lastVal (normalize ov) f = lastVal ov f := by
  have h : ∀ (ov acc : List (Nat × Bool)),
      lastVal (ov.foldl (fun acc p => if FlagMap.has acc p.1 then FlagMap.set acc p.1 p.2 else acc ++ [p]) acc) f
        = (lastVal ov f).or (lastVal acc f) := by
    intro ov
    induction ov with
    | nil => intro acc; rfl
    | cons p rest ih => intro acc; rw [List.foldl_cons, ih, lastVal_upsert, lastVal_cons, Option.or_assoc]
  simpa [normalize, lastVal] using h ov []

/-! ### Writing a list of settings into a map -/

theorem applyOverrides_eq_mapVal (l m : FlagMap) :
    applyOverrides l m = m.mapVal fun a b => (lastVal l a).getD b := by
  unfold applyOverrides
  induction l generalizing m with
  | nil => simp [FlagMap.mapVal, lastVal]
  | cons p rest ih =>
    rw [List.foldl_cons, ih, set_eq_mapVal, mapVal_mapVal]
    congr; funext a b
    rw [lastVal_cons]
    cases lastVal rest a <;> by_cases h : a = p.1 <;> simp [h, Ne.symm]

theorem applyLevels_eq_mapVal (levels : List (List Nat)) (level : Nat) (m : FlagMap) :
    applyLevels levels level m = m.mapVal fun a b => b || ((levels.take (level + 1)).flatten).contains a := by
  unfold applyLevels
  generalize (levels.take (level + 1)).flatten = l
  induction l generalizing m with
  | nil => simp [FlagMap.mapVal]
  | cons g rest ih =>
    rw [List.foldl_cons, ih, set_eq_mapVal, mapVal_mapVal]
    congr; funext a b
    by_cases h : a = g <;> simp [h]

theorem applyOverrides_congr (l l' : FlagMap) (h : ∀ f, lastVal l f = lastVal l' f) (m : FlagMap) :
    applyOverrides l m = applyOverrides l' m := by
  simp only [applyOverrides_eq_mapVal, h]

/-! ### Flags that no row mentions -/

/-- `f` occurs in no implies / exclusive list of the table. -/
def Unrelated (tbl : List FlagInfo) (f : Nat) : Prop :=
  ∀ g ∈ tbl, f ∉ g.implies ∧ f ∉ g.excl

instance (tbl : List FlagInfo) (f : Nat) : Decidable (Unrelated tbl f) := by
  unfold Unrelated; infer_instance

theorem optFlags_unrelated :
    ∀ f ∈ Gen.optLevels.flatten, Unrelated Gen.flagTable f ∧ (initFlags Gen.flagTable).has f = true := by
  decide

/-! ### The flags related by implies / exclusive_with: exhaustive over each cluster -/

def insertEverywhere {α : Type} (x : α) : List α → List (List α)
  | [] => [[x]]
  | y :: ys => (x :: y :: ys) :: (insertEverywhere x ys).map (y :: ·)

def perms {α : Type} : List α → List (List α)
  | [] => [[]]
  | x :: xs => (perms xs).flatMap (insertEverywhere x)

theorem mem_insertEverywhere {α : Type} (x : α) (l1 l2 : List α) :
    l1 ++ x :: l2 ∈ insertEverywhere x (l1 ++ l2) := by
  induction l1 with
  | nil => cases l2 <;> simp [insertEverywhere]
  | cons y l1 ih =>
    simp only [List.cons_append, insertEverywhere, List.mem_cons, List.mem_map]
    exact Or.inr ⟨_, ih, rfl⟩

theorem mem_perms_of_perm {α : Type} : ∀ (S l : List α), l.Perm S → l ∈ perms S := by
  intro S
  induction S with
  | nil => intro l h; simp [perms, h.eq_nil]
  | cons x xs ih =>
    intro l h
    obtain ⟨l1, l2, rfl⟩ := List.append_of_mem (h.mem_iff.2 List.mem_cons_self)
    have := ih (l1 ++ l2) (List.perm_middle.symm.trans h).cons_inv
    simp only [perms, List.mem_flatMap]
    exact ⟨_, this, mem_insertEverywhere x l1 l2⟩

/-- every way of leaving each key out or setting it on / off, keys in the given order -/
def assigns : List Nat → List (List (Nat × Bool))
  | [] => [[]]
  | k :: ks => (assigns ks).flatMap fun a => [a, (k, true) :: a, (k, false) :: a]

/-- every option sequence that mentions each flag of the cluster at most once, in every order -/
def allOv (keys : List Nat) : List (List (Nat × Bool)) := (assigns keys).flatMap perms

def impliedOn (tbl : List FlagInfo) (res : FlagMap) : Bool :=
  tbl.all fun g => !res.get g.id || g.implies.all fun x => res.get x

def neverBoth (tbl : List FlagInfo) (res : FlagMap) : Bool :=
  tbl.all fun g => g.excl.all fun x => !(res.get g.id && res.get x)

def explicitBoth (tbl : List FlagInfo) (ov : List (Nat × Bool)) : Bool :=
  tbl.any fun g => g.excl.any fun x => ov.contains (g.id, true) && ov.contains (x, true)

def insertSorted (p : Nat × Bool) : List (Nat × Bool) → List (Nat × Bool)
  | [] => [p]
  | q :: rest => if p.1 ≤ q.1 then p :: q :: rest else q :: insertSorted p rest

def sortOv : List (Nat × Bool) → List (Nat × Bool)
  | [] => []
  | p :: rest => insertSorted p (sortOv rest)

/-- everything a flag implies, transitively (itself included) -/
def implClosure (tbl : List FlagInfo) : Nat → Nat → List Nat
  | 0, g => [g]
  | fuel + 1, g => g :: (infoOf tbl g).implies.flatMap (implClosure tbl fuel)

/-- some explicitly requested flag implies (transitively) a flag that excludes another explicitly
    requested flag -/
def explicitConflict (tbl : List FlagInfo) (ov : List (Nat × Bool)) : Bool :=
  tbl.any fun g => ov.contains (g.id, true) &&
    (implClosure tbl tbl.length g.id).any fun y => (infoOf tbl y).excl.any fun x => ov.contains (x, true)

/-- The consistency facts for one option sequence over the rows of one cluster. -/
def goodIn (tbl : List FlagInfo) (ov : List (Nat × Bool)) : Bool :=
  match resolve tbl [] 0 ov with
  | some res => impliedOn tbl res && neverBoth tbl res && !explicitBoth tbl ov
  | none => explicitConflict tbl ov

/-- Same outcome (error or the complete flag map) as for the options sorted by flag. -/
def sameAsSorted (tbl : List FlagInfo) (ov : List (Nat × Bool)) : Bool :=
  resolve tbl [] 0 ov == resolve tbl [] 0 (sortOv ov)

/-- The generated cluster tables are the rows of the table, cluster by cluster; they are closed
    (no row mentions a flag outside its cluster), they contain every row that has an implies or
    exclusive list, and no optimisation level lists a related flag. -/
theorem clusters_closed :
    (Gen.clusterTables = Gen.relatedClusters.map fun C => Gen.flagTable.filter fun g => C.contains g.id) ∧
    (∀ C ∈ Gen.relatedClusters, ∀ g ∈ Gen.flagTable.filter (fun g => C.contains g.id),
        (∀ x ∈ g.implies, x ∈ C) ∧ (∀ x ∈ g.excl, x ∈ C)) ∧
    (∀ g ∈ Gen.flagTable, (g.implies ≠ [] ∨ g.excl ≠ []) → ∃ C ∈ Gen.relatedClusters, g.id ∈ C) ∧
    (∀ f ∈ Gen.optLevels.flatten, ∀ C ∈ Gen.relatedClusters, f ∉ C) := by
  decide

/-- the `a`-th assignment of the keys: digit 0 = absent, 1 = on, 2 = off -/
def decodeAssign : List Nat → Nat → List (Nat × Bool)
  | [], _ => []
  | k :: ks, a =>
    match a % 3 with
    | 0 => decodeAssign ks (a / 3)
    | 1 => (k, true) :: decodeAssign ks (a / 3)
    | _ => (k, false) :: decodeAssign ks (a / 3)

def pow3 : Nat → Nat
  | 0 => 1
  | n + 1 => 3 * pow3 n

/-- **Consistency of the related flags**, decided by the kernel for every cluster of the generated
    table and every assignment (each flag absent / on / off): implied flags are on, exclusive
    flags are never both on, requesting two exclusive flags explicitly is an error, and an error
    only arises when an explicitly requested flag (through what it implies) excludes another
    explicitly requested one. -/
theorem C19_related_flags_consistent :
    ∀ tbl ∈ Gen.clusterTables, ∀ a, a < pow3 tbl.length →
      goodIn tbl (decodeAssign (tbl.map (·.id)) a) = true := by
  decide +kernel

/-- **Order of the options**: for every cluster and assignment, giving the options in reverse
    order or rotated by one yields the same outcome as giving them sorted by flag.  (All orders, for
    every command line: `C19_order_independent_all` in C19Order.lean.) -/
theorem C19_order_independent_partial :
    ∀ tbl ∈ Gen.clusterTables, ∀ a, a < pow3 tbl.length →
      sameAsSorted tbl (decodeAssign (tbl.map (·.id)) a).reverse = true ∧
      sameAsSorted tbl ((decodeAssign (tbl.map (·.id)) a).rotateLeft 1) = true := by
  decide +kernel

end Nmfu
