/-
  C19 — the order of different flags never matters, and the result is consistent, for every
  command line, on the generated table.

  The clusters of related flags are closed sets (`gen_structure`, `clusters_closed`), so the generic
  theorems of C19Proj.lean apply.  The kernel decides, per cluster and with the whole table's
  budgets, that the exclusivity pass has the same outcome in every order, for every setting of the
  cluster's flags (`exclOrderFreeB_all`), and that the result is consistent (`clusterGoodB_all`); so
  every sequence mentioning each flag at most once resolves like the same settings in cluster order
  (`C19_cluster_order_free`).  Together: two command lines that give every flag the same last value
  resolve alike (`C19_order_independent_all`), and what they resolve to is consistent
  (`C19_consistent_all`).  The optimisation flags are mentioned by no row, hence
  `C19_levels_cumulative` and `C19_override_beats_level` for all command lines.
-/
import NmfuProps.C19Proj
namespace Nmfu

/-! ### The optimisation flags of the generated table -/

/-- **Explicit settings override the level**: for every command line (any length, any order, any
    repetitions) the final value of an optimisation flag is the last explicit setting given for it. -/
theorem C19_override_beats_level (level : Nat) (ov : List (Nat × Bool)) (f : Nat) (v : Bool)
    (hf : f ∈ Gen.optLevels.flatten) (hv : lastVal ov f = some v) (res : FlagMap)
    (h : resolve Gen.flagTable Gen.optLevels level ov = some res) : res.get f = v :=
  resolve_override_beats_level Gen.flagTable Gen.optLevels level ov f v (optFlags_unrelated f hf).1
    (optFlags_unrelated f hf).2 hv res h

/-- **Levels are cumulative**: with the same explicit settings, every optimisation flag that is
    on at level `l` is on at every level `l' ≥ l`. -/
theorem C19_levels_cumulative (l l' : Nat) (hl : l ≤ l') (ov : List (Nat × Bool)) (f : Nat)
    (hf : f ∈ Gen.optLevels.flatten) (res res' : FlagMap)
    (h : resolve Gen.flagTable Gen.optLevels l ov = some res)
    (h' : resolve Gen.flagTable Gen.optLevels l' ov = some res')
    (hon : res.get f = true) : res'.get f = true :=
  resolve_levels_cumulative Gen.flagTable Gen.optLevels l l' hl ov f (optFlags_unrelated f hf).1
    (optFlags_unrelated f hf).2 res res' h h' hon

/-! ### Option lists in a cluster's own order, and the generated table -/

/-- every option list over `ids` with distinct keys, keys in any order (`n` bounds the length) -/
def seqs : Nat → List Nat → List (List (Nat × Bool))
  | 0, _ => [[]]
  | n + 1, ids => [] :: ids.flatMap fun k => [true, false].flatMap fun v => (seqs n (ids.erase k)).map ((k, v) :: ·)

theorem seqs_sound : ∀ (n : Nat) (ids : List Nat) (l : FlagMap), ids.Nodup → l ∈ seqs n ids →
    NodupKeys l ∧ ∀ p ∈ l, p.1 ∈ ids := by
  intro n
  induction n with
  | zero =>
    intro ids l _ h
    simp only [seqs, List.mem_singleton] at h
    subst h; exact ⟨List.nodup_nil, by simp⟩
  | succ n ih =>
    intro ids l hid h
    simp only [seqs, List.mem_cons, List.mem_flatMap, List.mem_map] at h
    rcases h with rfl | ⟨k, hk, v, _, rest, hr, rfl⟩
    · exact ⟨List.nodup_nil, by simp⟩
    · obtain ⟨h1, h2⟩ := ih _ rest (hid.erase k) hr
      refine ⟨List.nodup_cons.2 ⟨fun hin => ?_, h1⟩,
        List.forall_mem_cons.2 ⟨hk, fun p hp => List.mem_of_mem_erase (h2 p hp)⟩⟩
      -- the keys of `rest` come from `ids.erase k`, which no longer holds `k`
      obtain ⟨q, hq, e⟩ := List.mem_map.1 hin
      exact hid.not_mem_erase (e ▸ h2 q hq)

/-- the settings of an option list, in the order of `C` -/
def canonOv (C : List Nat) (l : FlagMap) : FlagMap :=
  C.filterMap fun k => if FlagMap.has l k then some (k, FlagMap.get l k) else none

theorem canonOv_eq (C : List Nat) (l : FlagMap) (hn : NodupKeys l) :
    canonOv C l = C.filterMap fun k => (lastVal l k).map fun v => (k, v) := by
  unfold canonOv
  congr; funext k
  rw [has_eq_lastVal, get_eq_lastVal l hn]
  cases lastVal l k <;> rfl

theorem canonOv_same (C : List Nat) (o o' : FlagMap) (h : SameSettings o o') : canonOv C o = canonOv C o' := by
  simp only [canonOv_eq C o h.nodup_left, canonOv_eq C o' h.nodup_right, h.lastVal_eq]

theorem mem_canonOv_iff (C : List Nat) (l : FlagMap) (hn : NodupKeys l) (k : Nat) (v : Bool) :
    (k, v) ∈ canonOv C l ↔ k ∈ C ∧ lastVal l k = some v := by
  simp [canonOv_eq C l hn, List.mem_filterMap]

theorem canonOv_keys (C : List Nat) (l : FlagMap) :
    (canonOv C l).map (·.1) = C.filter (FlagMap.has l) := by
  induction C with
  | nil => rfl
  | cons k ks ih =>
    simp only [canonOv, List.filterMap_cons, List.filter_cons] at ih ⊢
    cases FlagMap.has l k <;> simp [ih]

theorem sameSettings_canonOv (C : List Nat) (hC : C.Nodup) (o : FlagMap) (hn : NodupKeys o)
    (hk : ∀ p ∈ o, p.1 ∈ C) : SameSettings o (canonOv C o) := by
  have hn' : NodupKeys (canonOv C o) := by
    unfold NodupKeys; rw [canonOv_keys]; exact hC.sublist List.filter_sublist
  refine ⟨hn, hn', fun f => Option.ext fun v => ?_⟩
  rw [lastVal_eq_some_iff _ hn', mem_canonOv_iff C o hn]
  exact ⟨fun h => ⟨hk _ ((lastVal_eq_some_iff o hn f v).1 h), h⟩, And.right⟩

theorem canonOv_mem_assigns (C : List Nat) (l : FlagMap) : canonOv C l ∈ assigns C := by
  unfold canonOv
  induction C with
  | nil => simp [assigns]
  | cons k ks ih =>
    simp only [List.filterMap_cons, assigns, List.mem_flatMap]
    refine ⟨_, ih, ?_⟩
    cases FlagMap.has l k <;> cases FlagMap.get l k <;> simp

/-- beside `clusters_closed` (which ties `Gen.clusterTables` to `restrictT Gen.flagTable C` and has the `inside` half
    of closedness): closedness in both directions, what a row lists lies in a cluster, no cluster names a flag twice -/
theorem gen_structure :
    (∀ C ∈ Gen.relatedClusters, Closed Gen.flagTable C) ∧
    (∀ g ∈ Gen.flagTable, ∀ x ∈ g.implies ++ g.excl, ∃ C ∈ Gen.relatedClusters, x ∈ C) ∧
    (∀ C ∈ Gen.relatedClusters, C.Nodup) := by
  decide

theorem gen_cover (k : Nat) (hk : ∀ C ∈ Gen.relatedClusters, k ∉ C) :
    (infoOf Gen.flagTable k).excl = [] ∧ (infoOf Gen.flagTable k).implies = [] ∧ Unrelated Gen.flagTable k := by
  have hlists : (infoOf Gen.flagTable k).implies = [] ∧ (infoOf Gen.flagTable k).excl = [] :=
    infoOf_cases Gen.flagTable k (fun g => g.implies = [] ∧ g.excl = [])
      (fun g hg e => Decidable.byContradiction fun hne => by
        obtain ⟨C, hC, h⟩ := clusters_closed.2.2.1 g hg (Decidable.not_and_iff_not_or_not.1 hne)
        exact hk C hC (e ▸ h))
      (fun g h1 h2 => ⟨h1, h2⟩)
  have hin : ∀ g ∈ Gen.flagTable, k ∉ g.implies ++ g.excl := fun g hg h => by
    obtain ⟨C, hC, hx⟩ := gen_structure.2.1 g hg k h
    exact hk C hC hx
  exact ⟨hlists.2, hlists.1, fun g hg =>
    ⟨fun h => hin g hg (List.mem_append_left _ h), fun h => hin g hg (List.mem_append_right _ h)⟩⟩

/-- the recursion budgets of the whole generated table -/
def genFuel : Nat := Gen.flagTable.length + 1

/-- **Decided by the kernel**, per cluster, with the whole table's budgets, for every setting of
    the cluster's flags (each absent / on / off): the exclusivity pass has the same outcome in
    whatever order it visits them. -/
theorem exclOrderFreeB_all : Gen.relatedClusters.all (fun C =>
    (assigns C).all (exclOrderFreeB (restrictT Gen.flagTable C) genFuel genFuel)) = true := by
  decide +kernel

theorem gen_cluster_canon (C : List Nat) (hC : C ∈ Gen.relatedClusters) (o : FlagMap)
    (hn : NodupKeys o) (hk : ∀ p ∈ o, p.1 ∈ C) :
    resolveNF (restrictT Gen.flagTable C) genFuel genFuel [] 0 o
      = resolveNF (restrictT Gen.flagTable C) genFuel genFuel [] 0 (canonOv C o) :=
  resolveNF_of_exclOrderFreeB _ _ _ o _ (sameSettings_canonOv C (gen_structure.2.2 C hC) o hn hk)
    (List.all_eq_true.1 (List.all_eq_true.1 exclOrderFreeB_all C hC) _ (canonOv_mem_assigns C o))

theorem gen_cluster_same (C : List Nat) (hC : C ∈ Gen.relatedClusters) (o o' : FlagMap)
    (hs : SameSettings o o') (hk : ∀ p ∈ o, p.1 ∈ C) (hk' : ∀ p ∈ o', p.1 ∈ C) :
    resolveNF (restrictT Gen.flagTable C) genFuel genFuel [] 0 o
      = resolveNF (restrictT Gen.flagTable C) genFuel genFuel [] 0 o' := by
  rw [gen_cluster_canon C hC o hs.nodup_left hk, gen_cluster_canon C hC o' hs.nodup_right hk', canonOv_same C o o' hs]

/-- every option list over the cluster's flags with distinct keys, in every order, resolves (with
    the whole table's budgets) exactly like the same settings written in the cluster's own order
    (the Boolean form of `C19_cluster_order_free` that DESIGN.md and check_C19.py cite) -/
def clusterOrderFreeB (C : List Nat) : Bool :=
  (seqs C.length C).all fun l =>
    resolveNF (restrictT Gen.flagTable C) genFuel genFuel [] 0 l
      == resolveNF (restrictT Gen.flagTable C) genFuel genFuel [] 0 (canonOv C l)

theorem C19_cluster_order_free :
    ∀ C ∈ Gen.relatedClusters, ∀ l ∈ seqs C.length C,
      resolveNF (restrictT Gen.flagTable C) genFuel genFuel [] 0 l
        = resolveNF (restrictT Gen.flagTable C) genFuel genFuel [] 0 (canonOv C l) := by
  intro C hC l hl
  obtain ⟨hn, hk⟩ := seqs_sound _ C l (gen_structure.2.2 C hC) hl
  exact gen_cluster_canon C hC l hn hk

theorem clusterOrderFreeB_all : Gen.relatedClusters.all clusterOrderFreeB = true := by
  simp only [List.all_eq_true, clusterOrderFreeB, beq_iff_eq]
  exact C19_cluster_order_free

/-- **The order of different flags never matters — every command line.**  Two option sequences of
    any length that give every flag the same last value (in particular: any reordering that keeps
    the relative order of the settings of one and the same flag) resolve, at every level, to the same
    outcome on the generated table: both are the conflict error, or both succeed and every flag has
    the same value. -/
theorem C19_order_independent_all (level : Nat) (ov ov' : List (Nat × Bool))
    (h : ∀ f, lastVal ov f = lastVal ov' f) :
    ObsEq (resolve Gen.flagTable Gen.optLevels level ov) (resolve Gen.flagTable Gen.optLevels level ov') :=
  resolveNF_order_free Gen.flagTable Gen.relatedClusters gen_structure.1 Gen.optLevels level
    (fun C hC g hg => clusters_closed.2.2.2 g hg C hC) gen_cover genFuel genFuel gen_cluster_same
    (normalize ov) (normalize ov')
    ⟨nodupKeys_normalize ov, nodupKeys_normalize ov', fun f => by rw [lastVal_normalize, lastVal_normalize, h f]⟩

/-- In particular: any permutation of a command line that names each flag at most once. -/
theorem C19_order_independent_perm_all (level : Nat) (ov ov' : List (Nat × Bool))
    (hn : NodupKeys ov) (hp : ov.Perm ov') :
    ObsEq (resolve Gen.flagTable Gen.optLevels level ov) (resolve Gen.flagTable Gen.optLevels level ov') := by
  apply C19_order_independent_all
  have hn' : NodupKeys ov' := List.Nodup.perm hn (hp.map _)
  intro f
  apply Option.ext
  intro v
  rw [lastVal_eq_some_iff ov hn, lastVal_eq_some_iff ov' hn']
  exact hp.mem_iff

/-! ### Consistency of the result, for every command line -/

theorem impliedOn_iff (tbl : List FlagInfo) (res : FlagMap) :
    impliedOn tbl res = true ↔ ∀ g ∈ tbl, res.get g.id = true → ∀ x ∈ g.implies, res.get x = true := by
  simp [impliedOn, Decidable.imp_iff_not_or]

theorem neverBoth_iff (tbl : List FlagInfo) (res : FlagMap) :
    neverBoth tbl res = true ↔ ∀ g ∈ tbl, ∀ x ∈ g.excl, ¬ (res.get g.id = true ∧ res.get x = true) := by
  simp [neverBoth, Decidable.imp_iff_not_or]

theorem explicitBoth_iff (tbl : List FlagInfo) (ov : List (Nat × Bool)) :
    explicitBoth tbl ov = true ↔ ∃ g ∈ tbl, ∃ x ∈ g.excl, (g.id, true) ∈ ov ∧ (x, true) ∈ ov := by
  simp [explicitBoth]

/-- what the kernel decides for one cluster and one list of settings in the cluster's order, with the
    whole table's budgets: when the cluster resolves, implied flags are on and exclusive flags are never
    both on, and it does not resolve when two exclusive flags are both requested -/
def clusterGoodB (C : List Nat) (l : FlagMap) : Bool :=
  match resolveNF (restrictT Gen.flagTable C) genFuel genFuel [] 0 l with
  | some res => impliedOn (restrictT Gen.flagTable C) res && neverBoth (restrictT Gen.flagTable C) res &&
      !explicitBoth (restrictT Gen.flagTable C) l
  | none => true

theorem clusterGoodB_all : Gen.relatedClusters.all (fun C => (assigns C).all (clusterGoodB C)) = true := by
  decide +kernel

/-- the whole-table result seen on a cluster: its restriction is the cluster's own result for the
    settings in cluster order, of which the kernel-decided facts hold -/
theorem gen_view (level : Nat) (ov : List (Nat × Bool)) (res : FlagMap)
    (h : resolve Gen.flagTable Gen.optLevels level ov = some res) (C : List Nat) (hC : C ∈ Gen.relatedClusters) :
    impliedOn (restrictT Gen.flagTable C) (restrictOv C res) = true ∧
    neverBoth (restrictT Gen.flagTable C) (restrictOv C res) = true ∧
    explicitBoth (restrictT Gen.flagTable C) (canonOv C (restrictOv C (normalize ov))) = false := by
  have e := resolveNF_proj Gen.flagTable C (gen_structure.1 C hC) Gen.optLevels level
    (fun g hg => clusters_closed.2.2.2 g hg C hC) genFuel genFuel _ res h
  rw [gen_cluster_canon C hC _ (nodupKeys_restrictOv C _ (nodupKeys_normalize ov)) (keys_restrictOv C _)] at e
  simpa [clusterGoodB, e, and_assoc] using
    List.all_eq_true.1 (List.all_eq_true.1 clusterGoodB_all C hC) _
      (canonOv_mem_assigns C (restrictOv C (normalize ov)))

theorem gen_row (g : FlagInfo) (hg : g ∈ Gen.flagTable) (hne : g.implies ≠ [] ∨ g.excl ≠ []) :
    ∃ C ∈ Gen.relatedClusters, g ∈ restrictT Gen.flagTable C ∧ g.id ∈ C ∧
      (∀ x ∈ g.implies, x ∈ C) ∧ ∀ x ∈ g.excl, x ∈ C := by
  obtain ⟨C, hC, hgC⟩ := clusters_closed.2.2.1 g hg hne
  exact ⟨C, hC, List.mem_filter.2 ⟨hg, by simpa using hgC⟩, hgC, (gen_structure.1 C hC).inside g hg hgC⟩

/-- **Implied flags are on and exclusive flags are never both on — every command line.**  Whenever
    the generated table resolves a command line (any length, any order, any level), every flag that
    is on has everything it implies on, and no flag is on together with one it excludes. -/
theorem C19_consistent_all (level : Nat) (ov : List (Nat × Bool)) (res : FlagMap)
    (h : resolve Gen.flagTable Gen.optLevels level ov = some res) :
    (∀ g ∈ Gen.flagTable, res.get g.id = true → ∀ x ∈ g.implies, res.get x = true) ∧
    (∀ g ∈ Gen.flagTable, ∀ x ∈ g.excl, ¬ (res.get g.id = true ∧ res.get x = true)) := by
  constructor
  · intro g hg hon x hx
    obtain ⟨C, hC, hgr, hgC, hi, _⟩ := gen_row g hg (Or.inl (List.ne_nil_of_mem hx))
    have := (impliedOn_iff _ _).1 (gen_view level ov res h C hC).1 g hgr
    rw [restrictOv_get C res _ hgC] at this
    rw [← restrictOv_get C res x (hi x hx)]
    exact this hon x hx
  · intro g hg x hx
    obtain ⟨C, hC, hgr, hgC, _, he⟩ := gen_row g hg (Or.inr (List.ne_nil_of_mem hx))
    have := (neverBoth_iff _ _).1 (gen_view level ov res h C hC).2.1 g hgr x hx
    rwa [restrictOv_get C res _ hgC, restrictOv_get C res x (he x hx)] at this

/-- **Requesting two exclusive flags is an error — every command line**: when the last settings of a
    flag and of one it excludes are both "on", the command line does not resolve. -/
theorem C19_explicit_exclusive_is_error (level : Nat) (ov : List (Nat × Bool)) (g : FlagInfo)
    (hg : g ∈ Gen.flagTable) (x : Nat) (hx : x ∈ g.excl)
    (h1 : lastVal ov g.id = some true) (h2 : lastVal ov x = some true) :
    resolve Gen.flagTable Gen.optLevels level ov = none := by
  cases hres : resolve Gen.flagTable Gen.optLevels level ov with
  | none => rfl
  | some res =>
    obtain ⟨C, hC, hgr, hgC, _, he⟩ := gen_row g hg (Or.inr (List.ne_nil_of_mem hx))
    have on_of : ∀ k, k ∈ C → lastVal ov k = some true → (k, true) ∈ canonOv C (restrictOv C (normalize ov)) :=
      fun k hk hl => (mem_canonOv_iff C _ (nodupKeys_restrictOv C _ (nodupKeys_normalize ov)) k true).2
        ⟨hk, by rw [lastVal_restrictOv, if_pos hk, lastVal_normalize, hl]⟩
    have hboth := (explicitBoth_iff _ _).2 ⟨g, hgr, x, hx, on_of g.id hgC h1, on_of x (he x hx) h2⟩
    rw [(gen_view level ov res hres C hC).2.2] at hboth
    cases hboth

end Nmfu
