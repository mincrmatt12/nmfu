/-
  C19 — resolution of the command-line flags projects onto closed sets of flags (any table).

  * For a set `C` of flags closed under the implies / exclusive lists of a table (no row inside
    mentions a flag outside and vice versa), restricting a map to the keys in `C` (`restrictOv C`)
    commutes with every phase of the resolution: a step about a flag of `C` is the same step on the
    restricted map, a step about another flag leaves the restricted map as it is.  So the rows of
    `C` alone resolve to the restriction of what the whole table resolves to (`resolveNF_proj`),
    with the same recursion budgets on both sides, and a failure of the whole table is the failure
    of one of the sets (`resolveNF_fail_cluster`).
  * The same frame lemmas with `C` a set of flags that no row mentions: such a flag ends as its last
    explicit setting, otherwise "some level up to -O<level> lists it, or it is on by default"
    (`resolve_get_unrelated`).
  * Hence order freedom of a table from order freedom of its closed sets (`resolveNF_order_free`).
  * The order of the options reaches a resolution only as the order in which the exclusivity pass
    visits them (`resolveNF_eq_fold`), which gives a criterion a kernel can decide per setting
    (`exclOrderFreeB`, `resolveNF_of_exclOrderFreeB`).
-/
import NmfuProps.C19
namespace Nmfu

/-! ### Option lists with distinct keys -/

def NodupKeys (l : FlagMap) : Prop := (l.map (·.1)).Nodup

theorem nodupKeys_normalize (ov : List (Nat × Bool)) : NodupKeys (normalize ov) := by
  refine List.foldlRecOn ov _ List.nodup_nil fun acc h p _ => ?_
  unfold NodupKeys at h ⊢
  split
  · rw [keys_set]; exact h
  · next hh =>
    rw [List.map_append, List.map_singleton, (List.perm_append_singleton _ _).nodup_iff, List.nodup_cons,
      ← has_iff_mem]
    exact ⟨hh, h⟩

theorem lastVal_none_of_not_mem (m : FlagMap) (k : Nat) (h : k ∉ m.map (·.1)) : lastVal m k = none :=
  Option.not_isSome_iff_eq_none.mp (by rwa [← has_eq_lastVal, has_iff_mem])

/-- with distinct keys the first entry of a key is its last -/
theorem lastVal_cons_of_nodup {p : Nat × Bool} {rest : FlagMap} (hn : NodupKeys (p :: rest)) (f : Nat) :
    lastVal (p :: rest) f = if p.1 = f then some p.2 else lastVal rest f := by
  rw [lastVal_cons]
  split
  · next hp => rw [lastVal_none_of_not_mem rest f (hp ▸ (List.nodup_cons.1 hn).1)]; rfl
  · exact Option.or_none

theorem get_eq_lastVal (m : FlagMap) (hn : NodupKeys m) (k : Nat) : m.get k = (lastVal m k).getD false := by
  induction m with
  | nil => rfl
  | cons p rest ih =>
    rw [lastVal_cons_of_nodup hn, FlagMap.get]
    split
    · rfl
    · exact ih (List.nodup_cons.1 hn).2

theorem lastVal_eq_some_iff (m : FlagMap) (hn : NodupKeys m) (k : Nat) (v : Bool) :
    lastVal m k = some v ↔ (k, v) ∈ m := by
  induction m with
  | nil => simp [lastVal]
  | cons p rest ih =>
    rw [lastVal_cons_of_nodup hn, List.mem_cons, ← ih (List.nodup_cons.1 hn).2]
    by_cases hp : p.1 = k
    · simp [hp, lastVal_none_of_not_mem rest k (hp ▸ (List.nodup_cons.1 hn).1), Prod.ext_iff, eq_comm]
    · simp [hp, Prod.ext_iff, Ne.symm hp]

/-! ### Folds -/

theorem foldl_filter_rel {α β γ : Type} (R : β → γ → Prop) (p : α → Bool) (f : β → α → β) (g : γ → α → γ)
    (l : List α) (hin : ∀ a ∈ l, p a = true → ∀ b c, R b c → R (f b a) (g c a))
    (hout : ∀ a ∈ l, p a = false → ∀ b c, R b c → R (f b a) c) {b : β} {c : γ} (h : R b c) :
    R (l.foldl f b) ((l.filter p).foldl g c) := by
  rw [List.foldl_filter]
  refine List.foldl_rel h fun a ha b c hbc => ?_
  cases hp : p a
  · exact hout a ha hp b c hbc
  · exact hin a ha hp b c hbc

theorem foldOpt_hom {α : Type} (π : FlagMap → FlagMap) (f g : α → FlagMap → Option FlagMap) (l : List α)
    (h : ∀ a ∈ l, ∀ m, (f a m).map π = g a (π m)) (m : FlagMap) :
    (foldOpt f l m).map π = foldOpt g l (π m) := by
  induction l generalizing m with
  | nil => rfl
  | cons a rest ih =>
    obtain ⟨ha, hr⟩ := List.forall_mem_cons.mp h
    rw [foldOpt, foldOpt, ← ha m]
    cases f a m with
    | none => rfl
    | some m' => exact ih hr m'

theorem foldOpt_frame {α β : Type} (π : FlagMap → β) (f : α → FlagMap → Option FlagMap) (l : List α)
    (h : ∀ a ∈ l, ∀ m m', f a m = some m' → π m' = π m) (m m' : FlagMap)
    (hm : foldOpt f l m = some m') : π m' = π m := by
  induction l generalizing m with
  | nil => cases hm; rfl
  | cons a rest ih =>
    obtain ⟨ha, hr⟩ := List.forall_mem_cons.mp h
    rw [foldOpt] at hm
    cases h1 : f a m with
    | none => rw [h1] at hm; cases hm
    | some m1 =>
      rw [h1] at hm
      exact (ih hr m1 hm).trans (ha m m1 h1)

/-! ### Restriction of a table and of a map or option list to a set of flags -/

def AgreeOn (C : List Nat) (m m' : FlagMap) : Prop :=
  ∀ f, f ∈ C → m.get f = m'.get f ∧ m.has f = m'.has f

theorem AgreeOn.symm {C : List Nat} {m m' : FlagMap} (h : AgreeOn C m m') : AgreeOn C m' m :=
  fun f hf => ⟨(h f hf).1.symm, (h f hf).2.symm⟩

structure Closed (T : List FlagInfo) (C : List Nat) : Prop where
  inside : ∀ g ∈ T, g.id ∈ C → (∀ x ∈ g.implies, x ∈ C) ∧ (∀ x ∈ g.excl, x ∈ C)
  outside : ∀ g ∈ T, g.id ∉ C → (∀ x ∈ g.implies, x ∉ C) ∧ (∀ x ∈ g.excl, x ∉ C)

instance (T : List FlagInfo) (C : List Nat) : Decidable (Closed T C) :=
  decidable_of_iff ((∀ g ∈ T, g.id ∈ C → (∀ x ∈ g.implies, x ∈ C) ∧ (∀ x ∈ g.excl, x ∈ C)) ∧
      ∀ g ∈ T, g.id ∉ C → (∀ x ∈ g.implies, x ∉ C) ∧ (∀ x ∈ g.excl, x ∉ C))
    ⟨fun h => ⟨h.1, h.2⟩, fun h => ⟨h.inside, h.outside⟩⟩

def restrictT (T : List FlagInfo) (C : List Nat) : List FlagInfo := T.filter fun g => C.contains g.id
def restrictOv (C : List Nat) (ovn : FlagMap) : FlagMap := ovn.filter fun p => C.contains p.1

theorem restrictOv_cons (C : List Nat) (p : Nat × Bool) (rest : FlagMap) :
    restrictOv C (p :: rest) = if p.1 ∈ C then p :: restrictOv C rest else restrictOv C rest := by
  simp [restrictOv, List.filter_cons]

theorem keys_restrictOv (C : List Nat) (o : FlagMap) : ∀ p ∈ restrictOv C o, p.1 ∈ C :=
  fun p hp => by simpa using (List.mem_filter.1 hp).2

theorem nodupKeys_restrictOv (C : List Nat) (o : FlagMap) (h : NodupKeys o) : NodupKeys (restrictOv C o) :=
  List.Nodup.sublist (List.Sublist.map _ List.filter_sublist) h

theorem lastVal_restrictOv (C : List Nat) (o : FlagMap) (f : Nat) :
    lastVal (restrictOv C o) f = if f ∈ C then lastVal o f else none := by
  induction o with
  | nil => simp [restrictOv, lastVal]
  | cons p rest ih =>
    rw [restrictOv_cons, lastVal_cons]
    by_cases hp : p.1 = f
    · subst hp; split <;> simp [lastVal_cons, *]
    · split <;> simp [lastVal_cons, ih, hp]

theorem restrictOv_has (C : List Nat) (m : FlagMap) (c : Nat) (hc : c ∈ C) :
    (restrictOv C m).has c = m.has c := by
  rw [has_eq_lastVal, has_eq_lastVal, lastVal_restrictOv, if_pos hc]

theorem restrictOv_get (C : List Nat) (m : FlagMap) (c : Nat) (hc : c ∈ C) :
    (restrictOv C m).get c = m.get c := by
  induction m with
  | nil => rfl
  | cons p rest ih =>
    rw [restrictOv_cons]
    by_cases hp : p.1 = c
    · simp [hp, hc, FlagMap.get]
    · split <;> simp [FlagMap.get, hp, ih]

theorem agreeOn_restrictOv (C : List Nat) (m : FlagMap) : AgreeOn C m (restrictOv C m) :=
  fun f hf => ⟨(restrictOv_get C m f hf).symm, (restrictOv_has C m f hf).symm⟩

theorem restrictOv_mapVal (C : List Nat) (h : Nat → Bool → Bool) (m : FlagMap) :
    restrictOv C (m.mapVal h) = (restrictOv C m).mapVal h := by
  rw [restrictOv, FlagMap.mapVal, List.filter_map]; rfl

theorem restrictOv_set (C : List Nat) (m : FlagMap) (k : Nat) (v : Bool) :
    restrictOv C (m.set k v) = (restrictOv C m).set k v := by
  rw [set_eq_mapVal, restrictOv_mapVal, ← set_eq_mapVal]

theorem restrictOv_set_of_not_mem (C : List Nat) (m : FlagMap) (k : Nat) (v : Bool) (hk : k ∉ C) :
    restrictOv C (m.set k v) = restrictOv C m := by
  rw [restrictOv_set, set_eq_mapVal]
  exact mapVal_eq_self _ _ fun p hp => if_neg fun e : p.1 = k => hk (e ▸ keys_restrictOv C m p hp)

theorem restrictOv_initFlags (C : List Nat) (T : List FlagInfo) :
    restrictOv C (initFlags T) = initFlags (restrictT T C) := by
  rw [restrictOv, initFlags, List.filter_map]; rfl

/-- `infoOf` is a row of the table with that id, or a row with empty lists -/
theorem infoOf_cases (T : List FlagInfo) (k : Nat) (P : FlagInfo → Prop) (hmem : ∀ g ∈ T, g.id = k → P g)
    (hnil : ∀ g : FlagInfo, g.implies = [] → g.excl = [] → P g) : P (infoOf T k) := by
  unfold infoOf
  split
  · next g h => exact hmem g (List.mem_of_find?_eq_some h) (by simpa using List.find?_some h)
  · exact hnil _ rfl rfl

theorem infoOf_restrict (T : List FlagInfo) (C : List Nat) (f : Nat) (hf : f ∈ C) :
    infoOf (restrictT T C) f = infoOf T f := by
  have : (restrictT T C).find? (fun g => g.id == f) = T.find? (fun g => g.id == f) := by
    rw [restrictT, List.find?_filter]
    congr; funext g
    by_cases h : g.id = f <;> simp [h, hf]
  unfold infoOf; rw [this]

theorem restrictOv_applyLevels (C : List Nat) (levels : List (List Nat)) (level : Nat)
    (hl : ∀ g ∈ levels.flatten, g ∉ C) (m : FlagMap) :
    restrictOv C (applyLevels levels level m) = restrictOv C m := by
  refine List.foldlRecOn (motive := fun acc => restrictOv C acc = restrictOv C m) _ _ rfl fun acc h g hg => ?_
  obtain ⟨lst, h1, h2⟩ := List.mem_flatten.1 hg
  rw [restrictOv_set_of_not_mem _ _ _ _ (hl g (List.mem_flatten.2 ⟨lst, List.mem_of_mem_take h1, h2⟩)), h]

theorem restrictOv_applyOverrides (C : List Nat) (ovn m : FlagMap) :
    restrictOv C (applyOverrides ovn m) = applyOverrides (restrictOv C ovn) (restrictOv C m) :=
  foldl_filter_rel (fun m mC => restrictOv C m = mC) _ _ _ ovn
    (fun p _ _ m mC h => by rw [restrictOv_set, h])
    (fun p _ hp m mC h => by rw [restrictOv_set_of_not_mem _ _ _ _ (by simpa using hp), h]) rfl

/-! ### The implies fix-point -/

def sweepImp (acc : FlagMap × Bool) (x : Nat) : FlagMap × Bool :=
  if acc.1.get x then acc else (acc.1.set x true, true)

def sweepRow (acc : FlagMap × Bool) (g : FlagInfo) : FlagMap × Bool :=
  if acc.1.get g.id then g.implies.foldl sweepImp acc else acc

theorem impliesSweep_eq (T : List FlagInfo) (m : FlagMap) :
    impliesSweep T m = T.foldl sweepRow (m, false) := rfl

theorem foldl_changed_or_eq {α β : Type} (s : β × Bool → α → β × Bool)
    (hs : ∀ acc a, (s acc a).2 = true ∨ s acc a = acc) (l : List α) (acc : β × Bool) :
    (l.foldl s acc).2 = true ∨ l.foldl s acc = acc := by
  refine List.foldlRecOn (motive := fun b => b.2 = true ∨ b = acc) l s (Or.inr rfl) fun b hb a _ => ?_
  rcases hb with hb | rfl
  · exact Or.inl ((hs b a).elim id fun e => by rw [e]; exact hb)
  · exact hs b a

theorem sweepImp_changed_or_eq (acc : FlagMap × Bool) (x : Nat) : (sweepImp acc x).2 = true ∨ sweepImp acc x = acc := by
  unfold sweepImp; split
  · exact Or.inr rfl
  · exact Or.inl rfl

theorem sweepRow_changed_or_eq (acc : FlagMap × Bool) (g : FlagInfo) : (sweepRow acc g).2 = true ∨ sweepRow acc g = acc := by
  unfold sweepRow; split
  · exact foldl_changed_or_eq sweepImp sweepImp_changed_or_eq _ acc
  · exact Or.inr rfl

theorem impliesSweep_unchanged (T : List FlagInfo) (m : FlagMap) (h : (impliesSweep T m).2 = false) :
    impliesSweep T m = (m, false) :=
  (foldl_changed_or_eq sweepRow sweepRow_changed_or_eq T (m, false)).resolve_left (by rw [← impliesSweep_eq, h]; simp)

theorem impliesFix_of_unchanged (T : List FlagInfo) (m : FlagMap) (h : (impliesSweep T m).2 = false) :
    ∀ fuel, impliesFix T fuel m = m
  | 0 => rfl
  | _ + 1 => by rw [impliesFix, impliesSweep_unchanged T m h]; rfl

/-- the sweep state on the rows of `C` alone: the restricted map, and a change seen there is a
    change seen on the whole table -/
def RelAcc (C : List Nat) (acc accC : FlagMap × Bool) : Prop :=
  restrictOv C acc.1 = accC.1 ∧ (accC.2 = true → acc.2 = true)

theorem sweepImp_both (C : List Nat) (x : Nat) (hx : x ∈ C) (acc accC : FlagMap × Bool)
    (h : RelAcc C acc accC) : RelAcc C (sweepImp acc x) (sweepImp accC x) := by
  unfold sweepImp
  rw [← h.1, restrictOv_get C _ x hx]
  split
  · exact h
  · exact ⟨restrictOv_set C _ x true, fun _ => rfl⟩

theorem sweepImp_left (C : List Nat) (x : Nat) (hx : x ∉ C) (acc accC : FlagMap × Bool)
    (h : RelAcc C acc accC) : RelAcc C (sweepImp acc x) accC := by
  unfold sweepImp
  split
  · exact h
  · exact ⟨(restrictOv_set_of_not_mem C _ x true hx).trans h.1, fun _ => rfl⟩

theorem foldImp_rel (C : List Nat) (l : List Nat) (acc accC : FlagMap × Bool) (h : RelAcc C acc accC) :
    RelAcc C (l.foldl sweepImp acc) ((l.filter C.contains).foldl sweepImp accC) :=
  foldl_filter_rel (RelAcc C) _ _ _ l (fun x _ hx => sweepImp_both C x (by simpa using hx))
    (fun x _ hx => sweepImp_left C x (by simpa using hx)) h

theorem sweepRow_both (C : List Nat) (g : FlagInfo) (hg : g.id ∈ C) (hi : ∀ x ∈ g.implies, x ∈ C)
    (acc accC : FlagMap × Bool) (h : RelAcc C acc accC) : RelAcc C (sweepRow acc g) (sweepRow accC g) := by
  unfold sweepRow
  rw [← h.1, restrictOv_get C _ _ hg]
  split
  · have := foldImp_rel C g.implies acc accC h
    rwa [List.filter_eq_self.2 fun x hx => by simpa using hi x hx] at this
  · exact h

theorem sweepRow_left (C : List Nat) (g : FlagInfo) (hi : ∀ x ∈ g.implies, x ∉ C)
    (acc accC : FlagMap × Bool) (h : RelAcc C acc accC) : RelAcc C (sweepRow acc g) accC := by
  unfold sweepRow
  split
  · have := foldImp_rel C g.implies acc accC h
    rwa [List.filter_eq_nil_iff.2 fun x hx => by simpa using hi x hx] at this
  · exact h

theorem sweep_rel (T : List FlagInfo) (C : List Nat) (hc : Closed T C) (m : FlagMap) :
    RelAcc C (impliesSweep T m) (impliesSweep (restrictT T C) (restrictOv C m)) :=
  foldl_filter_rel (RelAcc C) _ _ _ T
    (fun g hg hgc => sweepRow_both C g (by simpa using hgc) (hc.inside g hg (by simpa using hgc)).1)
    (fun g hg hgc => sweepRow_left C g (hc.outside g hg (by simpa using hgc)).1)
    ⟨rfl, fun hh => nomatch hh⟩

/-- **The implies fix-point projects**, with the same budget on both sides.  When the rows of `C`
    have come to rest the whole table may go on, but not on `C`: by the induction hypothesis it
    goes on from a map that the rows of `C` sweep without a change. -/
theorem restrictOv_impliesFix (T : List FlagInfo) (C : List Nat) (hc : Closed T C) (fuel : Nat) (m : FlagMap) :
    restrictOv C (impliesFix T fuel m) = impliesFix (restrictT T C) fuel (restrictOv C m) := by
  induction fuel generalizing m with
  | zero => rfl
  | succ fuel ih =>
    obtain ⟨h1, h2⟩ := sweep_rel T C hc m
    rw [impliesFix, impliesFix]
    cases hb : (impliesSweep (restrictT T C) (restrictOv C m)).2 with
    | true => rw [if_pos (h2 hb), if_pos rfl, ih, h1]
    | false =>
      rw [impliesSweep_unchanged _ _ hb] at h1 ⊢
      rw [if_neg Bool.false_ne_true]
      split
      · rw [ih, h1, impliesFix_of_unchanged _ _ hb]
      · exact h1

/-! ### The exclusivity pass -/

theorem exclClear_hom (C : List Nat) (ovn : FlagMap) (c : Nat) (hc : c ∈ C) (m : FlagMap) :
    (exclClear ovn c m).map (restrictOv C) = exclClear (restrictOv C ovn) c (restrictOv C m) := by
  simp only [exclClear, restrictOv_has C _ c hc, restrictOv_get C _ c hc]
  split
  · rfl
  · split
    · exact congrArg some (restrictOv_set C m c false)
    · rfl

theorem exclClear_frame (C : List Nat) (ovn : FlagMap) (c : Nat) (hc : c ∉ C) (m m' : FlagMap)
    (h : exclClear ovn c m = some m') : restrictOv C m' = restrictOv C m := by
  unfold exclClear at h
  split at h
  · cases h
  · split at h <;> cases h
    · exact restrictOv_set_of_not_mem C m c false hc
    · rfl

theorem exclAux_hom (T : List FlagInfo) (C : List Nat) (hc : Closed T C) (ovn : FlagMap) (fuel flag : Nat)
    (hflag : flag ∈ C) (m : FlagMap) :
    (exclAux T ovn fuel flag m).map (restrictOv C)
      = exclAux (restrictT T C) (restrictOv C ovn) fuel flag (restrictOv C m) := by
  induction fuel generalizing flag m with
  | zero => rfl
  | succ fuel ih =>
    obtain ⟨hi, he⟩ : (∀ x ∈ (infoOf T flag).implies, x ∈ C) ∧ ∀ x ∈ (infoOf T flag).excl, x ∈ C :=
      infoOf_cases T flag _ (fun g hg e => hc.inside g hg (e ▸ hflag)) (fun g h1 h2 => by simp [h1, h2])
    rw [exclAux, exclAux, infoOf_restrict T C flag hflag,
      ← foldOpt_hom (restrictOv C) _ _ _ (fun c hcm m => exclClear_hom C ovn c (he c hcm) m) m]
    cases foldOpt (exclClear ovn) (infoOf T flag).excl m with
    | none => rfl
    | some m1 => exact foldOpt_hom _ _ _ _ (fun x hx m => ih x (hi x hx) m) m1

/-- **Frame**: `aux` started on a flag of a set `S` of flags that is closed under implies and whose
    exclusive lists avoid `C` does not touch `C`. -/
theorem exclAux_frame (T : List FlagInfo) (C : List Nat) (ovn : FlagMap) (S : Nat → Prop)
    (hS : ∀ k, S k → (∀ x ∈ (infoOf T k).implies, S x) ∧ ∀ x ∈ (infoOf T k).excl, x ∉ C)
    (fuel flag : Nat) (hflag : S flag) (m m' : FlagMap) (h : exclAux T ovn fuel flag m = some m') :
    restrictOv C m' = restrictOv C m := by
  induction fuel generalizing flag m m' with
  | zero => cases h; rfl
  | succ fuel ih =>
    rw [exclAux] at h
    cases h1 : foldOpt (exclClear ovn) (infoOf T flag).excl m with
    | none => rw [h1] at h; cases h
    | some a =>
      rw [h1] at h
      exact (foldOpt_frame _ _ _ (fun x hx => ih x ((hS flag hflag).1 x hx)) a m' h).trans
        (foldOpt_frame _ _ _ (fun c hcm => exclClear_frame C ovn c ((hS flag hflag).2 c hcm)) m a h1)

/-- one entry of the exclusivity pass -/
def exclStep (T : List FlagInfo) (fe : Nat) (ovn : FlagMap) (p : Nat × Bool) (m : FlagMap) : Option FlagMap :=
  if m.get p.1 then exclAux T ovn fe p.1 m else some m

theorem exclPassF_eq (T : List FlagInfo) (fe : Nat) (ovn m : FlagMap) :
    exclPassF T fe ovn m = foldOpt (exclStep T fe ovn) ovn m := rfl

theorem exclStep_hom (T : List FlagInfo) (C : List Nat) (hc : Closed T C) (fe : Nat) (ovn : FlagMap)
    (p : Nat × Bool) (hp : p.1 ∈ C) (m : FlagMap) :
    (exclStep T fe ovn p m).map (restrictOv C)
      = exclStep (restrictT T C) fe (restrictOv C ovn) p (restrictOv C m) := by
  unfold exclStep
  rw [restrictOv_get C m _ hp]
  split
  · exact exclAux_hom T C hc ovn fe p.1 hp m
  · rfl

theorem exclStep_frame (T : List FlagInfo) (C : List Nat) (ovn : FlagMap) (S : Nat → Prop)
    (hS : ∀ k, S k → (∀ x ∈ (infoOf T k).implies, S x) ∧ ∀ x ∈ (infoOf T k).excl, x ∉ C)
    (fe : Nat) (p : Nat × Bool) (hp : S p.1) (m m' : FlagMap) (h : exclStep T fe ovn p m = some m') :
    restrictOv C m' = restrictOv C m := by
  unfold exclStep at h
  split at h
  · exact exclAux_frame T C ovn S hS fe p.1 hp m m' h
  · cases h; rfl

theorem Closed.frame {T : List FlagInfo} {C : List Nat} (hc : Closed T C) (k : Nat) (hk : k ∉ C) :
    (∀ x ∈ (infoOf T k).implies, x ∉ C) ∧ ∀ x ∈ (infoOf T k).excl, x ∉ C :=
  infoOf_cases T k _ (fun g hg e => hc.outside g hg (e ▸ hk)) (fun g h1 h2 => by simp [h1, h2])

/-- a successful entry of the pass over the whole table, seen on the rows of `C`: the same entry
    if it is about a flag of `C`, nothing otherwise -/
theorem exclStep_cons_sim (T : List FlagInfo) (C : List Nat) (hc : Closed T C) (fe : Nat) (ovn : FlagMap)
    (p : Nat × Bool) (rest m m' : FlagMap) (h : exclStep T fe ovn p m = some m') :
    foldOpt (exclStep (restrictT T C) fe (restrictOv C ovn)) (restrictOv C (p :: rest)) (restrictOv C m)
      = foldOpt (exclStep (restrictT T C) fe (restrictOv C ovn)) (restrictOv C rest) (restrictOv C m') := by
  rw [restrictOv_cons]
  split
  · next hp => rw [foldOpt, ← exclStep_hom T C hc fe ovn p hp m, h]; rfl
  · next hp => rw [exclStep_frame T C ovn (· ∉ C) hc.frame fe p hp m m' h]

theorem exclFold_sim (T : List FlagInfo) (C : List Nat) (hc : Closed T C) (fe : Nat) (ovn : FlagMap)
    (l : FlagMap) (m m1 : FlagMap) (h : foldOpt (exclStep T fe ovn) l m = some m1) :
    foldOpt (exclStep (restrictT T C) fe (restrictOv C ovn)) (restrictOv C l) (restrictOv C m)
      = some (restrictOv C m1) := by
  induction l generalizing m with
  | nil => cases h; rfl
  | cons p rest ih =>
    rw [foldOpt] at h
    cases hs : exclStep T fe ovn p m with
    | none => rw [hs] at h; cases h
    | some m' => rw [hs] at h; rw [exclStep_cons_sim T C hc fe ovn p rest m m' hs]; exact ih m' h

/-! ### Projection of a whole resolution onto a closed set of flags -/

theorem restrictOv_before_excl (T : List FlagInfo) (C : List Nat) (hc : Closed T C) (levels : List (List Nat))
    (level : Nat) (hl : ∀ g ∈ levels.flatten, g ∉ C) (fi : Nat) (ovn : FlagMap) :
    restrictOv C (impliesFix T fi (applyOverrides ovn (applyLevels levels level (initFlags T))))
      = impliesFix (restrictT T C) fi (applyOverrides (restrictOv C ovn) (applyLevels [] 0 (initFlags (restrictT T C)))) := by
  rw [restrictOv_impliesFix T C hc, restrictOv_applyOverrides, restrictOv_applyLevels C levels level hl,
    restrictOv_initFlags]; rfl

theorem resolveNF_proj (T : List FlagInfo) (C : List Nat) (hc : Closed T C) (levels : List (List Nat))
    (level : Nat) (hl : ∀ g ∈ levels.flatten, g ∉ C) (fi fe : Nat) (ovn res : FlagMap)
    (h : resolveNF T fi fe levels level ovn = some res) :
    resolveNF (restrictT T C) fi fe [] 0 (restrictOv C ovn) = some (restrictOv C res) := by
  unfold resolveNF at h ⊢
  rw [exclPassF_eq] at h ⊢
  rw [← restrictOv_before_excl T C hc levels level hl]
  exact exclFold_sim T C hc fe ovn ovn _ res h

/-- if the whole table resolves, so do the rows of `C` alone, to the same values on `C` -/
theorem resolveNF_proj_some (T : List FlagInfo) (C : List Nat) (hc : Closed T C) (levels : List (List Nat))
    (level : Nat) (hl : ∀ g ∈ levels.flatten, g ∉ C) (fi fe : Nat) (ovn res : FlagMap)
    (h : resolveNF T fi fe levels level ovn = some res) :
    ∃ resC, resolveNF (restrictT T C) fi fe [] 0 (restrictOv C ovn) = some resC ∧ AgreeOn C res resC :=
  ⟨_, resolveNF_proj T C hc levels level hl fi fe ovn res h, agreeOn_restrictOv C res⟩

theorem exclAux_empty (T : List FlagInfo) (ovn : FlagMap) (fuel k : Nat) (m : FlagMap)
    (he : (infoOf T k).excl = []) (hi : (infoOf T k).implies = []) : exclAux T ovn fuel k m = some m := by
  cases fuel with
  | zero => rfl
  | succ fuel => simp only [exclAux, he, hi, foldOpt]

/-- if the whole table fails to resolve, the rows of one of the sets fail on their own -/
theorem resolveNF_fail_cluster (T : List FlagInfo) (Cs : List (List Nat)) (hcl : ∀ C ∈ Cs, Closed T C)
    (levels : List (List Nat)) (level : Nat) (hlv : ∀ C ∈ Cs, ∀ g ∈ levels.flatten, g ∉ C)
    (hcover : ∀ k, (∀ C ∈ Cs, k ∉ C) → (infoOf T k).excl = [] ∧ (infoOf T k).implies = [])
    (fi fe : Nat) (ovn : FlagMap) (h : resolveNF T fi fe levels level ovn = none) :
    ∃ C ∈ Cs, resolveNF (restrictT T C) fi fe [] 0 (restrictOv C ovn) = none := by
  -- along the entries still to come: the first entry that fails is about a flag of one of the
  -- sets, whose rows fail on it too; the entries before it are simulated on those rows
  have key : ∀ (l m : FlagMap), foldOpt (exclStep T fe ovn) l m = none → ∃ C ∈ Cs,
      foldOpt (exclStep (restrictT T C) fe (restrictOv C ovn)) (restrictOv C l) (restrictOv C m) = none := by
    intro l
    induction l with
    | nil => intro m h; cases h
    | cons p rest ih =>
      intro m h
      rw [foldOpt] at h
      cases hs : exclStep T fe ovn p m with
      | some m' =>
        rw [hs] at h
        obtain ⟨C, hC, hf⟩ := ih m' h
        exact ⟨C, hC, by rw [exclStep_cons_sim T C (hcl C hC) fe ovn p rest m m' hs]; exact hf⟩
      | none =>
        have hp : ∃ C ∈ Cs, p.1 ∈ C := by
          apply Classical.byContradiction
          intro hno
          obtain ⟨he, hi⟩ := hcover p.1 fun C hC hin => hno ⟨C, hC, hin⟩
          unfold exclStep at hs
          split at hs
          · rw [exclAux_empty T ovn fe p.1 m he hi] at hs; cases hs
          · cases hs
        obtain ⟨C, hC, hpC⟩ := hp
        refine ⟨C, hC, ?_⟩
        rw [restrictOv_cons, if_pos hpC, foldOpt, ← exclStep_hom T C (hcl C hC) fe ovn p hpC m, hs]
        rfl
  unfold resolveNF at h ⊢
  rw [exclPassF_eq] at h
  obtain ⟨C, hC, hf⟩ := key _ _ h
  exact ⟨C, hC, by rw [exclPassF_eq, ← restrictOv_before_excl T C (hcl C hC) levels level (hlv C hC)]; exact hf⟩

/-! ### Flags that no row mentions -/

theorem resolveNF_frame (T : List FlagInfo) (C : List Nat) (hC : ∀ f ∈ C, Unrelated T f)
    (fi fe : Nat) (levels : List (List Nat)) (level : Nat) (ovn res : FlagMap)
    (h : resolveNF T fi fe levels level ovn = some res) :
    restrictOv C res = restrictOv C (applyOverrides ovn (applyLevels levels level (initFlags T))) := by
  have hfix : ∀ (fuel : Nat) (m : FlagMap), restrictOv C (impliesFix T fuel m) = restrictOv C m := by
    intro fuel
    induction fuel with
    | zero => intro m; rfl
    | succ fuel ih =>
      intro m
      have hs : RelAcc C (impliesSweep T m) (restrictOv C m, false) :=
        List.foldlRecOn (motive := fun acc => RelAcc C acc (restrictOv C m, false)) T sweepRow
          ⟨rfl, fun hh => nomatch hh⟩
          fun acc ha g hg => sweepRow_left C g (fun x hx hxC => (hC x hxC g hg).1 hx) acc _ ha
      rw [impliesFix]
      split
      · rw [ih, hs.1]
      · exact hs.1
  unfold resolveNF at h
  rw [exclPassF_eq] at h
  -- no exclusive list names a flag of `C`, so `exclAux` started anywhere (`S := fun _ => True`) leaves `C` alone
  have hexcl : ∀ k, ∀ x ∈ (infoOf T k).excl, x ∉ C := fun k =>
    infoOf_cases T k (fun g => ∀ x ∈ g.excl, x ∉ C) (fun g hg _ x hx hxC => (hC x hxC g hg).2 hx)
      (fun g _ h2 => by simp [h2])
  exact (foldOpt_frame _ _ _ (fun p _ => exclStep_frame T C ovn (fun _ => True)
    (fun k _ => ⟨fun _ _ => trivial, hexcl k⟩) fe p trivial) _ _ h).trans (hfix fi _)

theorem resolveNF_get_unrelated (T : List FlagInfo) (fi fe : Nat) (levels : List (List Nat)) (level : Nat)
    (ovn : FlagMap) (f : Nat) (hu : Unrelated T f) (res : FlagMap)
    (h : resolveNF T fi fe levels level ovn = some res) :
    res.get f = (applyOverrides ovn (applyLevels levels level (initFlags T))).get f := by
  have hf : f ∈ [f] := List.mem_singleton_self f
  rw [← restrictOv_get [f] res f hf, ← restrictOv_get [f] (applyOverrides _ _) f hf,
    resolveNF_frame T [f] (fun f' hf' => List.mem_singleton.1 hf' ▸ hu) fi fe levels level ovn res h]

/-- Closed form for a flag outside every implies / exclusive list: its last explicit value, or
    else "on by default or listed by a level up to the requested one". -/
theorem resolve_get_unrelated (tbl : List FlagInfo) (levels : List (List Nat)) (level : Nat)
    (ov : List (Nat × Bool)) (f : Nat) (hu : Unrelated tbl f) (hf : (initFlags tbl).has f = true)
    (res : FlagMap) (h : resolve tbl levels level ov = some res) :
    res.get f = (lastVal ov f).getD ((initFlags tbl).get f || ((levels.take (level + 1)).flatten).contains f) := by
  rw [resolve, resolveN_eq_resolveNF] at h
  rw [resolveNF_get_unrelated tbl _ _ levels level _ f hu res h, applyOverrides_eq_mapVal, applyLevels_eq_mapVal,
    get_mapVal, get_mapVal, has_mapVal, hf, lastVal_normalize]
  rfl

theorem resolve_override_beats_level (tbl : List FlagInfo) (levels : List (List Nat)) (level : Nat)
    (ov : List (Nat × Bool)) (f : Nat) (v : Bool) (hu : Unrelated tbl f) (hf : (initFlags tbl).has f = true)
    (hv : lastVal ov f = some v) (res : FlagMap) (h : resolve tbl levels level ov = some res) : res.get f = v := by
  rw [resolve_get_unrelated tbl levels level ov f hu hf res h, hv]; rfl

theorem resolve_levels_cumulative (tbl : List FlagInfo) (levels : List (List Nat)) (l l' : Nat) (hl : l ≤ l')
    (ov : List (Nat × Bool)) (f : Nat) (hu : Unrelated tbl f) (hf : (initFlags tbl).has f = true)
    (res res' : FlagMap) (h : resolve tbl levels l ov = some res) (h' : resolve tbl levels l' ov = some res')
    (hon : res.get f = true) : res'.get f = true := by
  rw [resolve_get_unrelated tbl levels l' ov f hu hf res' h']
  rw [resolve_get_unrelated tbl levels l ov f hu hf res h] at hon
  cases hlv : lastVal ov f with
  | some v => rw [hlv] at hon; exact hon
  | none =>
    rw [hlv] at hon
    simp only [Option.getD_none, Bool.or_eq_true, List.contains_eq_mem, decide_eq_true_eq] at hon ⊢
    refine hon.imp_right fun hin => ?_
    obtain ⟨lst, hlst, hxl⟩ := List.mem_flatten.1 hin
    exact List.mem_flatten.2 ⟨lst, List.take_subset_take_left _ (by omega : l + 1 ≤ l' + 1) hlst, hxl⟩

/-! ### Order freedom of the whole table from order freedom of its clusters -/

def ObsEq : Option FlagMap → Option FlagMap → Prop
  | none, none => True
  | some a, some b => ∀ f, a.get f = b.get f
  | _, _ => False

/-- two option lists with distinct keys that give every flag the same value -/
def SameSettings (o o' : FlagMap) : Prop :=
  NodupKeys o ∧ NodupKeys o' ∧ ∀ f, lastVal o f = lastVal o' f

theorem SameSettings.nodup_left {o o' : FlagMap} (h : SameSettings o o') : NodupKeys o := h.1
theorem SameSettings.nodup_right {o o' : FlagMap} (h : SameSettings o o') : NodupKeys o' := h.2.1
theorem SameSettings.lastVal_eq {o o' : FlagMap} (h : SameSettings o o') (f : Nat) : lastVal o f = lastVal o' f :=
  h.2.2 f

theorem SameSettings.restrict {o o' : FlagMap} (h : SameSettings o o') (C : List Nat) :
    SameSettings (restrictOv C o) (restrictOv C o') :=
  ⟨nodupKeys_restrictOv C o h.nodup_left, nodupKeys_restrictOv C o' h.nodup_right, fun f => by
    rw [lastVal_restrictOv, lastVal_restrictOv, h.lastVal_eq f]⟩

theorem resolveNF_order_free (T : List FlagInfo) (Cs : List (List Nat)) (hcl : ∀ C ∈ Cs, Closed T C)
    (levels : List (List Nat)) (level : Nat) (hlv : ∀ C ∈ Cs, ∀ g ∈ levels.flatten, g ∉ C)
    (hcover : ∀ k, (∀ C ∈ Cs, k ∉ C) → (infoOf T k).excl = [] ∧ (infoOf T k).implies = [] ∧ Unrelated T k)
    (fi fe : Nat)
    (hclu : ∀ C ∈ Cs, ∀ o o' : FlagMap, SameSettings o o' → (∀ p ∈ o, p.1 ∈ C) → (∀ p ∈ o', p.1 ∈ C) →
      resolveNF (restrictT T C) fi fe [] 0 o = resolveNF (restrictT T C) fi fe [] 0 o')
    (ovn ovn' : FlagMap) (hs : SameSettings ovn ovn') :
    ObsEq (resolveNF T fi fe levels level ovn) (resolveNF T fi fe levels level ovn') := by
  have hcl_eq : ∀ C ∈ Cs, resolveNF (restrictT T C) fi fe [] 0 (restrictOv C ovn)
      = resolveNF (restrictT T C) fi fe [] 0 (restrictOv C ovn') :=
    fun C hC => hclu C hC _ _ (hs.restrict C) (keys_restrictOv C ovn) (keys_restrictOv C ovn')
  -- a failure on one side is the failure of a cluster, which the other side would have projected
  have hnone : ∀ o o' : FlagMap, (∀ C ∈ Cs, resolveNF (restrictT T C) fi fe [] 0 (restrictOv C o)
      = resolveNF (restrictT T C) fi fe [] 0 (restrictOv C o')) →
      resolveNF T fi fe levels level o = none → resolveNF T fi fe levels level o' = none := by
    intro o o' heq h1
    obtain ⟨C, hC, hf⟩ := resolveNF_fail_cluster T Cs hcl levels level hlv
      (fun k hk => ⟨(hcover k hk).1, (hcover k hk).2.1⟩) fi fe o h1
    cases h2 : resolveNF T fi fe levels level o' with
    | none => rfl
    | some res' =>
      have := resolveNF_proj T C (hcl C hC) levels level (hlv C hC) fi fe o' res' h2
      rw [← heq C hC, hf] at this; cases this
  cases h1 : resolveNF T fi fe levels level ovn with
  | none => rw [hnone ovn ovn' hcl_eq h1]; trivial
  | some res =>
    cases h2 : resolveNF T fi fe levels level ovn' with
    | none => rw [hnone ovn' ovn (fun C hC => (hcl_eq C hC).symm) h2] at h1; cases h1
    | some res' =>
      intro f
      by_cases hin : ∃ C ∈ Cs, f ∈ C
      · obtain ⟨C, hC, hfC⟩ := hin
        have e := resolveNF_proj T C (hcl C hC) levels level (hlv C hC) fi fe ovn res h1
        have e' := resolveNF_proj T C (hcl C hC) levels level (hlv C hC) fi fe ovn' res' h2
        rw [hcl_eq C hC, e'] at e
        rw [← restrictOv_get C res f hfC, ← restrictOv_get C res' f hfC, Option.some.inj e]
      · have hu := (hcover f fun C hC hfC => hin ⟨C, hC, hfC⟩).2.2
        rw [resolveNF_get_unrelated T fi fe levels level ovn f hu res h1,
            resolveNF_get_unrelated T fi fe levels level ovn' f hu res' h2,
            applyOverrides_congr ovn ovn' hs.lastVal_eq]

/-! ### The order of the options matters only to the exclusivity pass -/

theorem SameSettings.has_get {o o' : FlagMap} (h : SameSettings o o') (k : Nat) :
    o.has k = o'.has k ∧ o.get k = o'.get k :=
  ⟨by rw [has_eq_lastVal, has_eq_lastVal, h.lastVal_eq k],
   by rw [get_eq_lastVal o h.nodup_left, get_eq_lastVal o' h.nodup_right, h.lastVal_eq k]⟩

theorem SameSettings.perm {o o' : FlagMap} (h : SameSettings o o') : o.Perm o' := by
  rw [List.perm_ext_iff_of_nodup (h.nodup_left.of_map _ fun _ _ hn e => hn (congrArg _ e))
    (h.nodup_right.of_map _ fun _ _ hn e => hn (congrArg _ e))]
  intro ⟨k, v⟩
  rw [← lastVal_eq_some_iff o h.nodup_left, ← lastVal_eq_some_iff o' h.nodup_right, h.lastVal_eq]

/-- the exclusivity pass looks at the option list only through `has` and `get` -/
theorem exclAux_congr (T : List FlagInfo) (o o' : FlagMap)
    (h : ∀ k, o.has k = o'.has k ∧ o.get k = o'.get k) :
    ∀ fuel, exclAux T o fuel = exclAux T o' fuel := by
  have hc : exclClear o = exclClear o' := by
    funext c m; simp only [exclClear, (h c).1, (h c).2]
  intro fuel
  induction fuel with
  | zero => rfl
  | succ fuel ih => funext flag m; simp only [exclAux, hc, ih]

/-- **Where the order can matter.**  A resolution is the exclusivity fold over the options in the
    order written; the map the fold starts from and the step it performs for one option depend on
    the settings alone. -/
theorem resolveNF_eq_fold (T : List FlagInfo) (fi fe : Nat) (levels : List (List Nat)) (level : Nat)
    (o S : FlagMap) (h : SameSettings o S) :
    resolveNF T fi fe levels level o =
      foldOpt (exclStep T fe S) o
        (impliesFix T fi (applyOverrides S (applyLevels levels level (initFlags T)))) := by
  have hs : exclStep T fe o = exclStep T fe S := by
    funext p m; simp only [exclStep, exclAux_congr T o S h.has_get]
  rw [resolveNF, exclPassF_eq, hs, applyOverrides_congr o S h.lastVal_eq]

/-- every order of visiting the settings `S` in the exclusivity pass has the outcome of the order
    written (no optimisation levels: the criterion is for the tables of related flags, which no level lists) -/
def exclOrderFreeB (T : List FlagInfo) (fi fe : Nat) (S : FlagMap) : Bool :=
  let m0 := impliesFix T fi (applyOverrides S (initFlags T))
  (perms S).all fun π => foldOpt (exclStep T fe S) π m0 == foldOpt (exclStep T fe S) S m0

theorem resolveNF_of_exclOrderFreeB (T : List FlagInfo) (fi fe : Nat) (o S : FlagMap)
    (h : SameSettings o S) (hS : exclOrderFreeB T fi fe S = true) :
    resolveNF T fi fe [] 0 o = resolveNF T fi fe [] 0 S := by
  rw [resolveNF_eq_fold T fi fe [] 0 o S h, resolveNF_eq_fold T fi fe [] 0 S S ⟨h.nodup_right, h.nodup_right, fun _ => rfl⟩]
  exact eq_of_beq (List.all_eq_true.1 hS o (mem_perms_of_perm S o h.perm))

end Nmfu
