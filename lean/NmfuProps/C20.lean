/-
  C20 — compilation is a pure function of source and options.

  Two compilations of the same source under the same options, whatever happened earlier in the
  process and whatever the hash seed or heap layout, must give observationally equivalent parsers.
  The machines of the two compilations are compared by the equivalence certificate; the theorem
  below is its soundness instantiated at two compiled machines: if the certificate holds, the two
  parsers perform the same events on every input under every outcome of every data test, one at
  most a step ahead.  State numbering, transition order and on-value order (what hash order may
  change) do not enter the statement.
-/
import NmfuModel.Mach
import NmfuProps.EquivSound
namespace Nmfu

theorem C20_same_behaviour (A B : Machine) (o : SemOpts) (V : List (PS Nat Nat AEv Quest))
    (h : certOK (A.sm o) (B.sm o) nSym V = true) (ω : Oracle AEv Quest) (w : List Nat)
    (hw : ∀ x ∈ w, x < nSym) :
    Comparable ((A.sm o).events ω w) ((B.sm o).events ω w) ∧
    ((A.sm o).finalCfg ω w = none → (B.sm o).finalCfg ω w = none →
      (A.sm o).events ω w = (B.sm o).events ω w) ∧
    (∀ x, x < nSym → (A.sm o).events ω w <+: (B.sm o).events ω (w ++ [x]) ∧
                     (B.sm o).events ω w <+: (A.sm o).events ω (w ++ [x])) :=
  certOK_behaviour h (by decide) ω w hw

end Nmfu
