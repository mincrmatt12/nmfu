/-
  Comparing two dispatches.  The optimiser theorems compare `Machine.dispatch` of two machines (a pass applied or
  not) or of one machine with two budgets, by a relation on trees: `=`, `Sim`, `Mono`.  What they share is here,
  for any relation: `Machine.armTree` in named pieces (the model writes the body of an arm as one expression with
  local definitions; the pieces are functions of the few values they look at), the transition a state takes on a
  symbol under a name (`St.armOn`), and one step of `Machine.dispatch` for two states that differ by a map of
  their transitions (`dispatch_succ_rel`).
-/
import NmfuModel.Mach
namespace Nmfu

theorem ite_rel {α β : Type} {R : α → β → Prop} {c : Prop} [Decidable c] {t e : α} {t' e' : β}
    (ht : c → R t t') (he : ¬c → R e e') : R (if c then t else e) (if c then t' else e') := by
  split
  · exact ht ‹_›
  · exact he ‹_›

/-- `adv'` of `Machine.armTree`: the cursor advance while the actions run (one more when the byte is consumed
    before them, `early`) -/
def Machine.armAdv (M : Machine) (o : SemOpts) (a : Arm) (x adv : Nat) : Nat :=
  if a.acts.mayYield && !decide (x = symEnd) && !a.fall && !M.immediateDone o a (decide (x = symEnd))
  then adv + 1 else adv

/-- `epilogue` (`done = false`) and `epilogueBrk` of `Machine.armTree`; `tgt`: the arm's target is a state of the
    table, `imm`: `Machine.immediateDone` of the arm, `acc`: the source state is accepting, `advN`: the cursor
    advance once the byte is consumed -/
def armEpilogue (done fall tgt imm acc : Bool) (failT : Int) (x adv' advN : Nat)
    (re : Int → Nat → CTree) : Int → CTree := fun st =>
  if done then .leaf (.ret "DONE" st adv')
  else if fall then (if tgt then re st adv' else fallOut failT acc x st adv')
  else if imm then .leaf (.ret "DONE" st adv')
  else if x = symEnd then fallOut failT acc x st adv'
  else if tgt then .leaf (.next st advN)
  else fallOut failT acc x st adv'

/-- The arm body in its pieces.  Consuming the byte leaves the cursor at `adv + 1`, whether the advance was
    early or not. -/
theorem Machine.armTree_eq (M : Machine) (o : SemOpts) (si : Int) (src : St) (a : Arm) (x adv : Nat)
    (re : Int → Nat → CTree) :
    M.armTree o si src a x adv re =
      a.acts.tree ⟨o, x, M.armAdv o a x adv, adv, re, fun h =>
          if !a.fall && !decide (x = symEnd) then .leaf (.next h (adv + 1)) else re h (M.armAdv o a x adv)⟩
        (if a.target ≥ 0 then a.target else si)
        (armEpilogue false a.fall (decide (a.target ≥ 0)) (M.immediateDone o a (decide (x = symEnd))) src.accepting
          M.failTarget x (M.armAdv o a x adv) (adv + 1) re)
        (fun st => armEpilogue (decide (x = symEnd) && !a.fall && M.isAccepting st) a.fall (decide (a.target ≥ 0))
          (M.immediateDone o a (decide (x = symEnd))) src.accepting M.failTarget x (M.armAdv o a x adv) (adv + 1) re
          st) := by
  have h : ∀ early : Bool, (if early then (if early then adv + 1 else adv) else (if early then adv + 1 else adv) + 1)
      = adv + 1 := by intro early; cases early <;> rfl
  unfold armEpilogue
  simp only [Machine.armTree, Machine.armAdv, h, decide_eq_true_eq, Bool.false_eq_true, if_false]

section
variable {R : CTree → CTree → Prop} {failT' failT st' st : Int}
  (hret : ∀ c n, R (.leaf (.ret c st' n)) (.leaf (.ret c st n)))
  (hfail : ∀ c n, R (.leaf (.ret c failT' n)) (.leaf (.ret c failT n)))
include hret hfail

theorem fallOut_rel {acc : Bool} {x adv : Nat} : R (fallOut failT' acc x st' adv) (fallOut failT acc x st adv) :=
  ite_rel (fun _ => hret _ _) fun _ => ite_rel (fun _ => hfail _ _) fun _ => hret _ _

theorem armEpilogue_rel (hnext : ∀ n, R (.leaf (.next st' n)) (.leaf (.next st n)))
    {re' re : Int → Nat → CTree} (hre : ∀ n, R (re' st' n) (re st n))
    {done fall tgt imm acc : Bool} {x adv' advN : Nat} :
    R (armEpilogue done fall tgt imm acc failT' x adv' advN re' st')
      (armEpilogue done fall tgt imm acc failT x adv' advN re st) :=
  have hf := fallOut_rel hret hfail (acc := acc) (x := x) (adv := adv')
  -- one line per test of `armEpilogue`
  ite_rel (fun _ => hret _ _) fun _ =>
  ite_rel (fun _ => ite_rel (fun _ => hre _) fun _ => hf) fun _ =>
  ite_rel (fun _ => hret _ _) fun _ =>
  ite_rel (fun _ => hf) fun _ =>
  ite_rel (fun _ => hnext _) fun _ => hf
end

/-- `arm` of `Machine.dispatch`: the transition a normal state takes on symbol `x` -/
def St.armOn (s : St) (x : Nat) : Option Arm := if x = symEnd then s.endArm else s.feedArm x

/-! Which transition a normal state takes: it is one of the state's, and it lists the symbol or `Else`. -/

theorem St.elseArm_spec {s : St} {a : Arm} (h : s.elseArm = some a) :
    a ∈ s.arms ∧ a.on.contains onElse = true :=
  ⟨List.mem_of_find?_eq_some h, List.find?_some (p := fun a : Arm => a.on.contains onElse) h⟩

theorem St.endArm_spec {s : St} {a : Arm} (h : s.endArm = some a) :
    a ∈ s.arms ∧ (a.on.contains symEnd = true ∨ a.on.contains onElse = true) := by
  simp only [St.endArm] at h
  split at h
  · next a' hf =>
    cases h
    exact ⟨List.mem_of_find?_eq_some hf, Or.inl (List.find?_some (p := fun a : Arm => a.on.contains symEnd) hf)⟩
  · exact ⟨(St.elseArm_spec h).1, Or.inr (St.elseArm_spec h).2⟩

theorem St.feedArm_go_spec {x : Nat} {p : Arm → Bool} {a : Arm} {arms : List Arm} {seen : Bool}
    (h : St.feedArm.go x p arms seen = some a) : a ∈ arms ∧ a.on.contains x = true := by
  -- cases: no arms; the first else-arm, which the if-chain skips; an arm that lists `x`; one that does not
  fun_induction St.feedArm.go x p arms seen with
  | case1 => cases h
  | case2 _ _ _ _ ih | case4 _ _ _ _ _ ih => exact ⟨List.mem_cons_of_mem _ (ih h).1, (ih h).2⟩
  | case3 _ _ _ _ hx => cases h; exact ⟨List.mem_cons_self, hx⟩

theorem St.feedArm_spec {s : St} {x : Nat} {a : Arm} (h : s.feedArm x = some a) :
    a ∈ s.arms ∧ (a.on.contains x = true ∨ a.on.contains onElse = true) := by
  simp only [St.feedArm] at h
  split at h
  · next a' hgo => cases h; exact ⟨(St.feedArm_go_spec hgo).1, Or.inl (St.feedArm_go_spec hgo).2⟩
  · exact ⟨(St.elseArm_spec h).1, Or.inr (St.elseArm_spec h).2⟩

theorem St.armOn_end (s : St) : s.armOn symEnd = s.endArm := if_pos rfl

theorem St.armOn_map {s s' : St} {f : Arm → Arm} {x : Nat} (he : s'.endArm = s.endArm.map f)
    (hf : s'.feedArm x = (s.feedArm x).map f) : s'.armOn x = (s.armOn x).map f := by
  rw [St.armOn, St.armOn, apply_ite (Option.map f), he, hf]

theorem St.armOn_mem {s : St} {x : Nat} {a : Arm} (h : s.armOn x = some a) : a ∈ s.arms := by
  unfold St.armOn at h
  split at h
  · exact (St.endArm_spec h).1
  · exact (St.feedArm_spec h).1

section
variable {R : CTree → CTree → Prop} {M' M : Machine} {o : SemOpts} {s' s : Int} {x adv : Nat}
  {re' re : Int → Nat → CTree} (f : Arm → Arm)
  (hask : ∀ q {A' A B' B : CTree}, R A' A → R B' B → R (.ask q A' B') (.ask q A B))
  (hret : ∀ c n, R (.leaf (.ret c s' n)) (.leaf (.ret c s n)))
  (hcond : ∀ a, (f a).cond = a.cond)
include hask hret hcond

theorem chain_rel {st' st : St} (arms : List Arm)
    (harm : ∀ a ∈ arms, R (M'.armTree o s' st' (f a) x adv re') (M.armTree o s st a x adv re)) :
    R (Machine.dispatch.chain M' o s' x adv st' re' (arms.map f)) (Machine.dispatch.chain M o s x adv st re arms) := by
  induction arms with
  | nil => exact hret _ _
  | cons a r ih =>
    obtain ⟨ha, hr⟩ := List.forall_mem_cons.mp harm
    have ihr := ih hr
    simp only [List.map_cons, Machine.dispatch.chain, hcond]
    split
    · exact ha
    · exact ha
    · exact ihr
    · exact hask _ ha ihr

/-- One step of `Machine.dispatch`, for two machines whose states at `s'` and `s` differ by a map `f` of their
    transitions: related arm bodies give related dispatch trees.  (`Sim` for the renumbering, `Mono` for a
    larger budget, `=` for a pass that changes no tree.) -/
theorem dispatch_succ_rel {fuel' fuel : Nat}
    (hfail : ∀ c n, R (.leaf (.ret c M'.failTarget n)) (.leaf (.ret c M.failTarget n)))
    (herr : ∀ a, (f a).err = a.err)
    (hout : (s' < 0 ∨ s'.toNat ≥ M'.states.size) ↔ (s < 0 ∨ s.toNat ≥ M.states.size))
    (hin : ¬(s < 0 ∨ s.toNat ≥ M.states.size) →
      ((M'.st s'.toNat).kind = (M.st s.toNat).kind ∧ (M'.st s'.toNat).accepting = (M.st s.toNat).accepting ∧
        (M'.st s'.toNat).arms = (M.st s.toNat).arms.map f) ∧
      (M'.st s'.toNat).armOn x = ((M.st s.toNat).armOn x).map f ∧
      ∀ a ∈ (M.st s.toNat).arms,
        R (M'.armTree o s' (M'.st s'.toNat) (f a) x adv fun t n => M'.dispatch o fuel' t x n)
          (M.armTree o s (M.st s.toNat) a x adv fun t n => M.dispatch o fuel t x n)) :
    R (M'.dispatch o (fuel' + 1) s' x adv) (M.dispatch o (fuel + 1) s x adv) := by
  rw [Machine.dispatch, Machine.dispatch]
  simp only [Bool.or_eq_true, decide_eq_true_eq, hout]
  split
  · exact hret _ _
  · obtain ⟨⟨hk, hac, har⟩, hon, harm⟩ := hin ‹_›
    simp only [hk, hac, har]
    cases hkind : (M.st s.toNat).kind with
    | fail => exact hret _ _
    | cond => exact chain_rel f hask hret hcond _ harm
    | normal =>
      rw [← St.armOn, ← St.armOn, hon]
      cases ha : (M.st s.toNat).armOn x with
      | none => exact fallOut_rel hret hfail
      | some a =>
        simp only [Option.map_some, herr]
        exact ite_rel (fun _ => hret _ _) fun _ => harm a (St.armOn_mem ha)
end

end Nmfu
