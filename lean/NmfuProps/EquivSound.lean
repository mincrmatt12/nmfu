/-
  Soundness of the lag-tolerant equivalence certificate, for every pair of symbolic machines,
  every input word and every history-indexed oracle.
-/
import NmfuModel.Equiv
import NmfuProps.TreeRun
namespace Nmfu

variable {S T A Q L : Type}

/-- The answers recorded in `es` are the ones `ω` gives when `es` is performed from `h`. -/
def Consistent (ω : Oracle A Q) : List (Ev A Q) → List (Ev A Q) → Prop
  | _, [] => True
  | h, .act a :: es => Consistent ω (h ++ [.act a]) es
  | h, .asked q v :: es => ω h q = v ∧ Consistent ω (h ++ [.asked q v]) es

theorem run_consistent (ω : Oracle A Q) (t : Tree A Q L) (h : List (Ev A Q)) :
    Consistent ω h (t.run ω h).1 := by
  induction t generalizing h with
  | emit a k ih => exact ih _
  | ask q kt kf iht ihf =>
    rw [run_ask ω q kt kf h _ rfl]
    cases hv : ω h q with
    | true => exact ⟨hv, iht _⟩
    | false => exact ⟨hv, ihf _⟩
  | leaf l => trivial

/-- Product state `p` describes the two concrete runs so far: the configurations, and the side
    that leads has performed exactly the lag more than the other, with `ω`'s answers. -/
def Rel (ω : Oracle A Q) (p : PS S T A Q) (hA hB : List (Ev A Q)) (cA : Option S) (cB : Option T) : Prop :=
  p.a = cA ∧ p.b = cB ∧
  (if p.aLeads then hA = hB ++ p.lag ∧ Consistent ω hB p.lag
   else hB = hA ++ p.lag ∧ Consistent ω hA p.lag)

def Comparable {α : Type} (l1 l2 : List α) : Prop := l1 <+: l2 ∨ l2 <+: l1

theorem Rel.comparable {ω : Oracle A Q} {p : PS S T A Q} {hA hB cA cB}
    (hr : Rel ω p hA hB cA cB) : Comparable hA hB := by
  obtain ⟨_, _, hl⟩ := hr
  split at hl
  · exact .inr ⟨_, hl.1.symm⟩
  · exact .inl ⟨_, hl.1.symm⟩

theorem Rel.eq_of_lag_nil {ω : Oracle A Q} {p : PS S T A Q} {hA hB cA cB}
    (hr : Rel ω p hA hB cA cB) (h : p.lag = []) : hA = hB := by
  obtain ⟨_, _, hl⟩ := hr
  rw [h] at hl
  split at hl <;> simp [hl.1]

theorem rel_init (ω : Oracle A Q) (M : SM S A Q) (N : SM T A Q) :
    Rel ω (initPS M N) [] [] (some M.start) (some N.start) := by
  simp [Rel, initPS, Consistent]

theorem runFrom_append (M : SM S A Q) (ω : Oracle A Q) (w v : List Nat) (h : List (Ev A Q))
    (c : Option S) :
    M.runFrom ω h c (w ++ v) =
      ((M.runFrom ω h c w).1 ++ (M.runFrom ω (h ++ (M.runFrom ω h c w).1) (M.runFrom ω h c w).2 v).1,
       (M.runFrom ω (h ++ (M.runFrom ω h c w).1) (M.runFrom ω h c w).2 v).2) := by
  induction w generalizing h c with
  | nil => simp [SM.runFrom]
  | cons x w ih => simp [SM.runFrom, ih, List.append_assoc]

variable [DecidableEq A] [DecidableEq Q]

theorem sync_run (ω : Oracle A Q) {lag : List (Ev A Q)} {t t' : Tree A Q L} {h : List (Ev A Q)}
    (hs : sync lag t = some t') (hc : Consistent ω h lag) :
    t.run ω h = (lag ++ (t'.run ω (h ++ lag)).1, (t'.run ω (h ++ lag)).2) := by
  -- cases: no lag left; the lag's action against an emit (the same action, another); the lag's question against
  -- an ask (the same question, another); any other pairing
  fun_induction sync lag t generalizing h with
  | case1 t => cases hs; simp
  | case2 es a k ih => simp [ih hs hc]
  | case4 v es q kt kf ih => simp [run_ask ω q kt kf h v hc.1, ih hs hc.2]
  | case3 | case5 | case6 => cases hs

theorem sync_leaf_some {lag : List (Ev A Q)} {l : L} {t : Tree A Q L}
    (h : sync lag (.leaf l) = some t) : lag = [] := by
  cases lag with
  | nil => rfl
  | cons e es => cases e <;> cases h

/-- `joint` finds, among its successors, the product state of the two runs from the common
    history `h`.  When one tree is at its leaf, the run of the other is one of its paths: that
    path is the new lag. -/
theorem joint_run (ω : Oracle A Q) {tA : Tree A Q (Leaf S)} {tB : Tree A Q (Leaf T)}
    {succs : List (PS S T A Q)} {h : List (Ev A Q)} (hj : joint tA tB = some succs) :
    ∃ p ∈ succs, Rel ω p (h ++ (tA.run ω h).1) (h ++ (tB.run ω h).1)
      (tA.run ω h).2.cfg (tB.run ω h).2.cfg := by
  have left (l : Leaf S) (t : Tree A Q (Leaf T)) (h) :
      ∃ p ∈ t.paths.map fun p => (⟨l.cfg, p.2.cfg, p.1, false⟩ : PS S T A Q),
        Rel ω p (h ++ []) (h ++ (t.run ω h).1) l.cfg (t.run ω h).2.cfg :=
    ⟨_, List.mem_map_of_mem (run_mem_paths ω t h), by simpa [Rel] using run_consistent ω t h⟩
  have right (l : Leaf T) (t : Tree A Q (Leaf S)) (h) :
      ∃ p ∈ t.paths.map fun p => (⟨p.2.cfg, l.cfg, p.1, true⟩ : PS S T A Q),
        Rel ω p (h ++ (t.run ω h).1) (h ++ []) (t.run ω h).2.cfg l.cfg :=
    ⟨_, List.mem_map_of_mem (run_mem_paths ω t h), by simpa [Rel] using run_consistent ω t h⟩
  -- cases, in the order of `joint`'s equations: emit/emit with the same action (1), another (2); ask/ask with the
  -- same question and both pairs of branches joined (3), a pair not joined (4), another question (5); leaf on the
  -- left (6); emit/leaf (7); ask/leaf (8); emit/ask (9); ask/emit (10)
  fun_induction joint tA tB generalizing succs h with
  | case1 k a k' ih =>
    have := ih (h := h ++ [.act a]) hj
    simpa only [run_emit, List.append_assoc, List.singleton_append] using this
  | case3 kt kf q kt' kf' l1 l2 h2 h1 iht ihf =>
    cases hj
    rw [run_ask ω q kt kf h _ rfl, run_ask ω q kt' kf' h _ rfl]
    cases hv : ω h q with
    | true =>
      obtain ⟨p, hp, hr⟩ := iht (h := h ++ [.asked q true]) h1
      exact ⟨p, List.mem_append_left _ hp, by simpa [List.append_assoc] using hr⟩
    | false =>
      obtain ⟨p, hp, hr⟩ := ihf (h := h ++ [.asked q false]) h2
      exact ⟨p, List.mem_append_right _ hp, by simpa [List.append_assoc] using hr⟩
  | case6 l t => cases hj; exact left l _ h
  | case7 a k l | case8 q kt kf l => cases hj; exact right l _ h
  | case2 | case4 | case5 | case9 | case10 => cases hj

theorem stepCheck_eq (M : SM S A Q) (N : SM T A Q) (p : PS S T A Q) (x : Nat) :
    stepCheck M N p x =
      if p.aLeads then (sync p.lag (N.tree p.b x)).bind fun tB' => joint (M.tree p.a x) tB'
      else (sync p.lag (M.tree p.a x)).bind fun tA' => joint tA' (N.tree p.b x) := by
  simp only [stepCheck]
  split
  · cases sync p.lag (N.tree p.b x) <;> rfl
  · cases sync p.lag (M.tree p.a x) <;> rfl

/-- One symbol: the trailing side first performs the lag (`sync_run`), which brings both to a
    common history, from where `joint_run` applies.  The two prefix facts say that whatever was
    lagging before the symbol has been caught up with after it. -/
theorem step_rel (ω : Oracle A Q) (M : SM S A Q) (N : SM T A Q) {p : PS S T A Q} {x : Nat}
    {hA hB : List (Ev A Q)} {cA : Option S} {cB : Option T} {succs : List (PS S T A Q)}
    (hr : Rel ω p hA hB cA cB) (hs : stepCheck M N p x = some succs) :
    ∃ p' ∈ succs,
      Rel ω p' (hA ++ ((M.tree cA x).run ω hA).1) (hB ++ ((N.tree cB x).run ω hB).1)
        ((M.tree cA x).run ω hA).2.cfg ((N.tree cB x).run ω hB).2.cfg ∧
      hA <+: hB ++ ((N.tree cB x).run ω hB).1 ∧
      hB <+: hA ++ ((M.tree cA x).run ω hA).1 := by
  obtain ⟨rfl, rfl, hl⟩ := hr
  rw [stepCheck_eq] at hs
  split at hl
  · next hlead =>
    obtain ⟨rfl, hcons⟩ := hl
    obtain ⟨tB', hsync, hj⟩ := Option.bind_eq_some_iff.1 ((if_pos hlead).symm.trans hs)
    obtain ⟨p', hp', hr'⟩ := joint_run ω (h := hB ++ p.lag) hj
    rw [sync_run ω hsync hcons]
    exact ⟨p', hp', by simpa only [List.append_assoc] using hr',
      ⟨_, List.append_assoc ..⟩, ⟨_, (List.append_assoc ..).symm⟩⟩
  · next hlead =>
    obtain ⟨rfl, hcons⟩ := hl
    obtain ⟨tA', hsync, hj⟩ := Option.bind_eq_some_iff.1 ((if_neg hlead).symm.trans hs)
    obtain ⟨p', hp', hr'⟩ := joint_run ω (h := hA ++ p.lag) hj
    rw [sync_run ω hsync hcons]
    exact ⟨p', hp', by simpa only [List.append_assoc] using hr',
      ⟨_, (List.append_assoc ..).symm⟩, ⟨_, List.append_assoc ..⟩⟩

variable [DecidableEq S] [DecidableEq T]

theorem certOK_iff {M : SM S A Q} {N : SM T A Q} {nsym : Nat} {V : List (PS S T A Q)} :
    certOK M N nsym V = true ↔
      initPS M N ∈ V ∧ ∀ p ∈ V, ∀ x < nsym, ∃ succs, stepCheck M N p x = some succs ∧ ∀ p' ∈ succs, p' ∈ V := by
  simp only [certOK, Bool.and_eq_true, List.contains_iff_mem, List.all_eq_true, List.mem_range]
  refine and_congr_right fun _ => forall₂_congr fun p _ => forall₂_congr fun x _ => ?_
  cases stepCheck M N p x <;> simp

/-- The invariant is preserved along any word: after `w` the two runs are described by some
    product state of the certificate. -/
theorem cert_runs {M : SM S A Q} {N : SM T A Q} {nsym : Nat} {V : List (PS S T A Q)}
    (hc : certOK M N nsym V = true) (ω : Oracle A Q) {w : List Nat} (hw : ∀ x ∈ w, x < nsym)
    {p : PS S T A Q} {hA hB : List (Ev A Q)} {cA : Option S} {cB : Option T}
    (hp : p ∈ V) (hr : Rel ω p hA hB cA cB) :
    ∃ p' ∈ V, Rel ω p' (hA ++ (M.runFrom ω hA cA w).1) (hB ++ (N.runFrom ω hB cB w).1)
      (M.runFrom ω hA cA w).2 (N.runFrom ω hB cB w).2 := by
  induction w generalizing p hA hB cA cB with
  | nil => exact ⟨p, hp, by simpa [SM.runFrom] using hr⟩
  | cons x w ih =>
    obtain ⟨hx, hw'⟩ := List.forall_mem_cons.mp hw
    obtain ⟨succs, hs, hsub⟩ := (certOK_iff.1 hc).2 p hp x hx
    obtain ⟨p', hp', hr', _⟩ := step_rel ω M N hr hs
    simpa [SM.runFrom, List.append_assoc] using ih hw' (hsub p' hp') hr'

/-- **Soundness of the certificate.**  If `certOK M N nsym V` holds then for every oracle and every
    word over symbols below `nsym`, the event sequences of the two machines are prefix-comparable,
    and equal once both machines have halted. -/
theorem certOK_sound {M : SM S A Q} {N : SM T A Q} {nsym : Nat} {V : List (PS S T A Q)}
    (hc : certOK M N nsym V = true) (hn : 0 < nsym) (ω : Oracle A Q) (w : List Nat)
    (hw : ∀ x ∈ w, x < nsym) :
    Comparable (M.events ω w) (N.events ω w) ∧
    (M.finalCfg ω w = none → N.finalCfg ω w = none → M.events ω w = N.events ω w) := by
  obtain ⟨p, hp, hr⟩ := cert_runs hc ω hw (certOK_iff.1 hc).1 (rel_init ω M N)
  simp only [List.nil_append] at hr
  refine ⟨hr.comparable, fun hA hB => hr.eq_of_lag_nil ?_⟩
  -- a halted machine answers the next symbol with a bare leaf: the check passes there only if
  -- nothing is lagging
  obtain ⟨succs, hs, _⟩ := (certOK_iff.1 hc).2 p hp 0 hn
  rw [stepCheck_eq, hr.1.trans hA, hr.2.1.trans hB] at hs
  split at hs <;> obtain ⟨_, hsync, _⟩ := Option.bind_eq_some_iff.1 hs <;>
    exact sync_leaf_some hsync

/-- The lag is never older than one input step: everything one machine has done after `w` the
    other has done after `w ++ [x]`, whatever `x` is. -/
theorem certOK_lag_one {M : SM S A Q} {N : SM T A Q} {nsym : Nat} {V : List (PS S T A Q)}
    (hc : certOK M N nsym V = true) (ω : Oracle A Q) (w : List Nat) (x : Nat)
    (hw : ∀ y ∈ w, y < nsym) (hx : x < nsym) :
    M.events ω w <+: N.events ω (w ++ [x]) ∧ N.events ω w <+: M.events ω (w ++ [x]) := by
  obtain ⟨p, hp, hr⟩ := cert_runs hc ω hw (certOK_iff.1 hc).1 (rel_init ω M N)
  obtain ⟨succs, hs, _⟩ := (certOK_iff.1 hc).2 p hp x hx
  obtain ⟨_, _, _, h1, h2⟩ := step_rel ω M N hr hs
  simpa [SM.events, runFrom_append, SM.runFrom] using And.intro h1 h2

/-- Both results in the three-part form C01 and C20 state. -/
theorem certOK_behaviour {M : SM S A Q} {N : SM T A Q} {nsym : Nat} {V : List (PS S T A Q)}
    (hc : certOK M N nsym V = true) (hn : 0 < nsym) (ω : Oracle A Q) (w : List Nat)
    (hw : ∀ x ∈ w, x < nsym) :
    Comparable (M.events ω w) (N.events ω w) ∧
    (M.finalCfg ω w = none → N.finalCfg ω w = none → M.events ω w = N.events ω w) ∧
    (∀ x, x < nsym → M.events ω w <+: N.events ω (w ++ [x]) ∧ N.events ω w <+: M.events ω (w ++ [x])) :=
  have h := certOK_sound hc hn ω w hw
  ⟨h.1, h.2, fun x hx => certOK_lag_one hc ω w x hw hx⟩

end Nmfu
