/-
  Non-vacuity: a machine the real nmfu compiled — exported by harness/export.py from

      out str[3] s; hook full;
      parser { try { s += /a+/; ";"; } catch (outofspace) { full(); wait ";"; } "!"; }

  at -O1 with EOF support, transcribed below — satisfies the decidable hypotheses of the runtime
  theorems (the kernel evaluates them), and sessions on it behave as the program reads.  The check
  scripts evaluate the same predicates on every exported machine with compiled code; the harness
  compares this transcription with a fresh export on every run (check_C06).
-/
import NmfuProps.C04
import NmfuProps.C17
import NmfuProps.C12Storage
namespace Nmfu

private def arm (on : List Nat) (target : Int) (fall err : Bool) (acts : Acts := .nil) : Arm :=
  { on := on, cond := .else_, target := target, fall := fall, err := err, acts := acts }

private def app : Acts := .cons (.append 3 0) .nil
private def hk : Acts := .cons (.hook "full") .nil

def exMachine : Machine where
  states := #[
    { kind := .normal, accepting := false, arms := [arm [257] 7 true true, arm [97] 1 false false app] },
    { kind := .normal, accepting := false, arms := [arm [257] 7 true true, arm [97] 1 false false app, arm [59] 2 false false] },
    { kind := .normal, accepting := false, arms := [arm [257] 7 true true, arm [33] 6 false false] },
    { kind := .normal, accepting := false, arms := [arm [257] 4 false true hk, arm [59] 5 false false hk] },
    { kind := .normal, accepting := false, arms := [arm [257] 4 false true, arm [59] 5 false false] },
    { kind := .normal, accepting := false, arms := [arm [257] 7 true true, arm [33] 6 false false] },
    { kind := .normal, accepting := true, arms := [] },
    { kind := .fail, accepting := false, arms := [] }]
  start := 0
  outs := #[{ name := "s", ty := .str 3 true, defInt := none, defStr := none }]
  startActs := .nil
  hooks := ["full"]
  finishCodes := []
  yieldCodes := []

def exCtx : RtCtx := { M := exMachine, ro := {} }
def exCtxOnDemand : RtCtx := { M := exMachine, ro := { dynamic := true, onDemand := true, deleteFrees := true } }

/-- hypotheses of C03 (memory safety), in two storage modes -/
example : exCtx.safeCheck = true := by decide +kernel
example : exCtxOnDemand.safeCheck = true := by decide +kernel
/-- hypothesis of C02 / C10 (every call tree ends in a leaf the feed loop understands) -/
example : exMachine.leavesOK {} = true := by decide +kernel
/-- hypothesis of C04 (no dispatch runs into its move budget) -/
example : exCtx.noSpinCheck = true := by decide +kernel
/-- hypothesis of `C10_end_fail_is_final` (a FAIL from `end()` leaves the fail state behind) -/
example : exMachine.endFailOK {} = true := by decide +kernel
/-- hypothesis of `C10_end_fail_then_empty_chunk` (… exactly the index the empty-chunk test names) -/
example : exMachine.endFailExact {} = true := by decide +kernel
/-- hypotheses of `C10_fail_is_final` (FAIL leaves `failTarget`, everything else a state of the table; the
    empty-chunk test names `failTarget`), the start state is good, and a session that fails: `b`, then an
    empty chunk, `a`, `end()` — every call after the FAIL answers FAIL -/
example : exMachine.failClosed {} = true := by decide +kernel
example : ({ exCtx with ro := { zeroLen := true, eof := true } } : RtCtx).emptyFails exMachine.failTarget = true := by decide +kernel
example : exCtx.startClosed = true := by decide +kernel
example : (({ exCtx with ro := { zeroLen := true, eof := true } } : RtCtx).session {} [.feed [98] 0, .feed [] 0, .feed [97] 0, .endInput]).2
    = [("OK", 0), ("FAIL", 0), ("FAIL", 0), ("FAIL", 0), ("FAIL", 0)] := by decide +kernel
/-- hypothesis of C17 (no data-pattern arm is taken on end-of-input) -/
example : exMachine.endArmsOK = true := by decide +kernel

/-- the session `aa;!` : two bytes stored, DONE at the last byte -/
example : (let r := exCtx.runChunks 4 (exCtx.start {}).1 [[97, 97, 59, 33]] 0
           (r.σ.memFault, (r.σ.str 0).counter, r.σ.state)) = (false, 2, 6) := by decide +kernel

/-- the session `aaa;!` in two chunks: the third `a` finds the buffer full, the handler calls the
    hook (one log line) and waits for `;`; the second log line is the DONE code at offset 4 -/
example : (let r := exCtx.runChunks 4 (exCtx.start {}).1 [[97, 97], [97, 59, 33]] 0
           (r.σ.memFault, (r.σ.str 0).counter, r.σ.state, r.σ.log.size)) = (false, 2, 6, 2) := by decide +kernel

/-- hypothesis of `C12_storage_independent` (no expression indexes into a buffer), and the second
    context is the first one with other storage options -/
example : exCtx.idxFreeCheck = true := by decide +kernel
example : exCtxOnDemand = exCtx.withStorage true true true := rfl

/-- the session `aaa;!` then `end()`, in the struct and on the heap on demand with freeing: the
    codes and cursors of `start`, `feed`, `end`, and the two bytes that were stored -/
example : (exCtx.session {} [.feed [97, 97, 97, 59, 33] 0, .endInput]).2
    = [("OK", 0), ("DONE", 4), ("DONE", 0)] := by decide +kernel
example : (exCtxOnDemand.session {} [.feed [97, 97, 97, 59, 33] 0, .endInput]).2
    = [("OK", 0), ("DONE", 4), ("DONE", 0)] := by decide +kernel
example : (exCtxOnDemand.session {} [.feed [97, 97] 0, .feed [97, 59, 33] 0]).1.abs.content 0
    = [some 97, some 97] := by decide +kernel

end Nmfu
