/-
  Concrete execution is the symbolic semantics under the oracle that the store defines.

  For every tree `t`, running it on a store (`RtCtx.runTree`: the data model
  of the emitted C) performs exactly the events that `Tree.run` performs under the oracle
  "evaluate the question in the store obtained by applying the events so far", and ends in the
  store obtained by applying those events.  This is what lets the equivalence theorems (stated
  for all history-indexed oracles) speak about concrete runs.

  Second part: a call at the failure state or at an index outside the table is the FAIL leaf
  (`call_failLike`); from a per-machine check that sweeps the call trees of the table to every call
  (`Machine.call_cases`) and to the leaf a concrete call reaches (`RtCtx.call_leaf`).
-/
import NmfuModel.Rt
import NmfuProps.TreeRun
namespace Nmfu

/-- The store after the events `h` have been performed from `σ0`. -/
def RtCtx.after (c : RtCtx) (isStart : Bool) (σ0 : CState) (h : List MEv) : CState :=
  h.foldl (c.applyEv isStart) σ0

def RtCtx.oracle (c : RtCtx) (isStart : Bool) (σ0 : CState) : Oracle AEv Quest :=
  fun h q => c.answer (c.after isStart σ0 h) q == some true

theorem runTree_ask (c : RtCtx) (isStart : Bool) (q : Quest) (kt kf : CTree) (σ : CState) (v : Bool)
    (hv : (c.answer σ q == some true) = v) :
    c.runTree isStart (.ask q kt kf) σ = c.runTree isStart (if v then kt else kf) (c.applyEv isStart σ (.asked q v)) := by
  cases v <;> simp [RtCtx.runTree, hv]

theorem after_snoc (c : RtCtx) (isStart : Bool) (σ0 : CState) (h : List MEv) (e : MEv) :
    c.after isStart σ0 (h ++ [e]) = c.applyEv isStart (c.after isStart σ0 h) e := by
  simp [RtCtx.after]

theorem runTree_eq_run (c : RtCtx) (isStart : Bool) (σ0 : CState) (t : CTree) :
    ∀ h : List MEv,
      c.runTree isStart t (c.after isStart σ0 h) =
        (c.after isStart σ0 (h ++ (t.run (c.oracle isStart σ0) h).1),
         (t.run (c.oracle isStart σ0) h).2) := by
  -- one event `e` further the store is `after (h ++ [e])`, where the induction hypothesis applies
  induction t with
  | emit a k ih => intro h; rw [RtCtx.runTree, run_emit, List.append_cons, ← after_snoc, ih]
  | ask q kt kf iht ihf =>
    intro h
    rw [RtCtx.runTree, run_ask _ q kt kf h _ rfl, List.append_cons, ← after_snoc, ← after_snoc]
    cases hq : c.oracle isStart σ0 h q with
    | true => exact (if_pos hq).trans (iht _)
    | false => exact (if_neg (ne_true_of_eq_false hq)).trans (ihf _)
  | leaf l => intro h; simp [RtCtx.runTree, Tree.run]

theorem runTree_eq_run_nil (c : RtCtx) (isStart : Bool) (σ : CState) (t : CTree) :
    c.runTree isStart t σ =
      (c.after isStart σ (t.run (c.oracle isStart σ) []).1, (t.run (c.oracle isStart σ) []).2) := by
  have := runTree_eq_run c isStart σ t []
  simpa [RtCtx.after] using this

theorem runTree_leaf_mem_paths (c : RtCtx) (isStart : Bool) (t : CTree) (σ : CState) :
    ∃ p ∈ t.paths, p.2 = (c.runTree isStart t σ).2 := by
  rw [runTree_eq_run_nil]
  exact ⟨_, run_mem_paths _ t [], rfl⟩

/-! ### Call trees at an arbitrary state index -/

theorem Machine.inTable_iff (M : Machine) (s : Int) : M.inTable s = true ↔ 0 ≤ s ∧ s.toNat < M.states.size := by
  rw [Machine.inTable, Bool.and_eq_true, decide_eq_true_eq, decide_eq_true_eq]

/-- A state index that is the failure state or lies outside the table. -/
def Machine.failLike (M : Machine) (s : Int) : Prop :=
  s < 0 ∨ s.toNat ≥ M.states.size ∨ (M.st s.toNat).kind = .fail

theorem failLike_of_not_inTable (M : Machine) (s : Int) (h : M.inTable s = false) : M.failLike s := by
  have := mt (M.inTable_iff s).2 (by rw [h]; exact Bool.false_ne_true)
  unfold Machine.failLike; omega

theorem call_failLike (M : Machine) (o : SemOpts) (s : Int) (x : Nat) (h : M.failLike s) :
    M.call o s x = .leaf (.ret "FAIL" s 0) := by
  rw [Machine.call, Machine.stepFuel, Machine.dispatch]
  split
  · rfl
  · next hin =>
    simp only [Bool.or_eq_true, decide_eq_true_eq, not_or] at hin
    simp only [(h.resolve_left hin.1).resolve_left hin.2]

/-- A property of call trees holds at every state index once it holds of the `default:` leaf and of
    the trees of the table, which is what the per-machine checks sweep. -/
theorem Machine.call_cases (M : Machine) (o : SemOpts) (x : Nat) {P : Int → CTree → Prop}
    (hin : ∀ s : Nat, s < M.states.size → P s (M.call o s x))
    (hout : ∀ s, M.inTable s = false → P s (.leaf (.ret "FAIL" s 0))) (s : Int) : P s (M.call o s x) := by
  cases h : M.inTable s with
  | false => rw [call_failLike M o s x (failLike_of_not_inTable M s h)]; exact hout s h
  | true =>
    rw [M.inTable_iff] at h
    have := hin s.toNat h.2
    rwa [Int.toNat_of_nonneg h.1] at this

/-- The same for the leaf a concrete call reaches, from what a check says about all paths. -/
theorem RtCtx.call_leaf (c : RtCtx) (x : Nat) {P : Int → MLeaf → Prop}
    (hin : ∀ s : Nat, s < c.M.states.size → ∀ p ∈ (c.M.call c.semOpts s x).paths, P s p.2)
    (hout : ∀ s, c.M.inTable s = false → P s (.ret "FAIL" s 0)) (σ : CState) :
    P σ.state (c.runTree false (c.M.call c.semOpts σ.state x) σ).2 :=
  c.M.call_cases c.semOpts x (P := fun s t => P s (c.runTree false t σ).2)
    (fun s hs => by
      obtain ⟨p, hp, hl⟩ := runTree_leaf_mem_paths c false (c.M.call c.semOpts s x) σ
      exact hl ▸ hin s hs p hp) hout σ.state

end Nmfu
