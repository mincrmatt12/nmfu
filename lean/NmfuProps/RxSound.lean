/-
  Correctness of the regular-expression machinery: denotation `Lang`, and
  `nullable`, `deriv`, `alive`, `accepts` against it — for every expression and every word over
  the 257 symbols.
-/
import NmfuModel.Rx
namespace Nmfu.Rx

inductive Lang : Rx → List Nat → Prop where
  | eps : Lang .eps []
  | cls {s : List Nat} {x : Nat} : x ∈ s → Lang (.cls s) [x]
  | seq {a b : Rx} {u v : List Nat} : Lang a u → Lang b v → Lang (.seq a b) (u ++ v)
  | altL {a b : Rx} {w : List Nat} : Lang a w → Lang (.alt a b) w
  | altR {a b : Rx} {w : List Nat} : Lang b w → Lang (.alt a b) w
  | starNil {a : Rx} : Lang (.star a) []
  | starCons {a : Rx} {u v : List Nat} : Lang a u → Lang (.star a) v → Lang (.star a) (u ++ v)

/-! `Lang` constructor by constructor: everything below goes through these. -/

@[simp] theorem lang_empty (w : List Nat) : ¬ Lang .empty w := fun h => nomatch h

@[simp] theorem lang_eps (w : List Nat) : Lang .eps w ↔ w = [] :=
  ⟨fun h => by cases h; rfl, fun h => h ▸ .eps⟩

@[simp] theorem lang_cls (s : List Nat) (w : List Nat) : Lang (.cls s) w ↔ ∃ x, w = [x] ∧ x ∈ s :=
  ⟨fun h => by cases h with | cls hx => exact ⟨_, rfl, hx⟩, fun ⟨_, h, hx⟩ => h ▸ .cls hx⟩

theorem lang_seq (a b : Rx) (w : List Nat) :
    Lang (.seq a b) w ↔ ∃ u v, Lang a u ∧ Lang b v ∧ u ++ v = w :=
  ⟨fun h => by cases h with | seq h1 h2 => exact ⟨_, _, h1, h2, rfl⟩,
   fun ⟨_, _, h1, h2, h⟩ => h ▸ .seq h1 h2⟩

@[simp] theorem lang_alt (a b : Rx) (w : List Nat) : Lang (.alt a b) w ↔ Lang a w ∨ Lang b w :=
  ⟨fun h => by cases h with | altL h => exact .inl h | altR h => exact .inr h,
   fun h => h.elim .altL .altR⟩

theorem nullable_iff (r : Rx) : r.nullable = true ↔ Lang r [] := by
  induction r <;> simp [nullable, lang_seq, Lang.starNil, *]

theorem lang_mkSeq (a b : Rx) (w : List Nat) : Lang (mkSeq a b) w ↔ Lang (.seq a b) w := by
  unfold mkSeq
  split <;> simp [lang_seq]

theorem lang_alts (r : Rx) (w : List Nat) : (∃ x ∈ alts r, Lang x w) ↔ Lang r w := by
  induction r <;> simp [alts, or_and_right, exists_or, *]

theorem lang_ofAlts (l : List Rx) (w : List Nat) : Lang (ofAlts l) w ↔ ∃ x ∈ l, Lang x w := by
  induction l using ofAlts.induct <;> simp [ofAlts, *]

theorem lang_mkAlt (a b : Rx) (w : List Nat) : Lang (mkAlt a b) w ↔ Lang a w ∨ Lang b w := by
  simp [mkAlt, lang_ofAlts, List.mem_eraseDups, or_and_right, exists_or, lang_alts]

theorem lang_seq_cons (a b : Rx) (x : Nat) (w : List Nat) :
    Lang (.seq a b) (x :: w) ↔
      (∃ u v, Lang a (x :: u) ∧ Lang b v ∧ u ++ v = w) ∨ (Lang a [] ∧ Lang b (x :: w)) := by
  rw [lang_seq]
  constructor
  · rintro ⟨u, v, hu, hv, h⟩
    cases u with
    | nil => exact .inr ⟨hu, h ▸ hv⟩
    | cons y u => cases h; exact .inl ⟨u, v, hu, hv, rfl⟩
  · rintro (⟨u, v, hu, hv, rfl⟩ | ⟨ha, hb⟩)
    · exact ⟨_, _, hu, hv, rfl⟩
    · exact ⟨[], _, ha, hb, rfl⟩

theorem lang_star_cons (a : Rx) (x : Nat) (w : List Nat) :
    Lang (.star a) (x :: w) ↔ ∃ u v, Lang a (x :: u) ∧ Lang (.star a) v ∧ u ++ v = w := by
  constructor
  · intro h
    generalize hr : Rx.star a = r at h
    generalize hw : x :: w = w' at h
    -- the first non-empty chunk of the iteration is the one that carries `x`
    induction h with
    | @starCons _ u v h1 h2 _ ih2 =>
      cases hr
      cases u with
      | nil => exact ih2 rfl hw
      | cons y u' => cases hw; exact ⟨u', v, h1, h2, rfl⟩
    | starNil => cases hw
    | _ => cases hr
  · rintro ⟨u, v, h1, h2, rfl⟩
    exact .starCons h1 h2

theorem deriv_iff (r : Rx) (x : Nat) (w : List Nat) : Lang (r.deriv x) w ↔ Lang r (x :: w) := by
  induction r generalizing w with
  | empty | eps => simp [deriv]
  | cls s =>
    simp only [deriv]
    split <;> simp_all [and_assoc]
  | seq a b iha ihb =>
    rw [lang_seq_cons, deriv]
    split <;> simp [lang_mkAlt, lang_mkSeq, lang_seq, ← nullable_iff, *]
  | alt a b iha ihb => simp [deriv, lang_mkAlt, *]
  | star a iha => simp [deriv, lang_mkSeq, lang_seq, lang_star_cons, *]

theorem derivs_iff (r : Rx) (w v : List Nat) : Lang (r.derivs w) v ↔ Lang r (w ++ v) := by
  induction w generalizing r with
  | nil => rfl
  | cons x w ih => exact (ih (r.deriv x)).trans (deriv_iff r x (w ++ v))

theorem derivs_snoc (r : Rx) (w : List Nat) (x : Nat) : (r.derivs w).deriv x = r.derivs (w ++ [x]) := by
  simp [derivs]

theorem derivs_nullable_iff (r : Rx) (w : List Nat) : (r.derivs w).nullable = true ↔ Lang r w := by
  rw [nullable_iff, derivs_iff, List.append_nil]

/-- **Derivative acceptance is language membership**, for every expression and word. -/
theorem accepts_iff (r : Rx) (w : List Nat) : r.accepts w = true ↔ Lang r w :=
  derivs_nullable_iff r w

/-- `alive` decides non-emptiness of the language. -/
theorem alive_iff (r : Rx) : r.alive = true ↔ ∃ w, Lang r w := by
  induction r with
  | cls s =>
    cases s with
    | nil => simp [alive]
    | cons x s => exact ⟨fun _ => ⟨[x], .cls (List.mem_cons_self ..)⟩, fun _ => rfl⟩
  | seq a b iha ihb =>
    simp only [alive, Bool.and_eq_true, iha, ihb, lang_seq]
    constructor
    · rintro ⟨⟨u, hu⟩, ⟨v, hv⟩⟩
      exact ⟨_, u, v, hu, hv, rfl⟩
    · rintro ⟨_, u, v, hu, hv, _⟩
      exact ⟨⟨u, hu⟩, ⟨v, hv⟩⟩
  | star a _ => simpa [alive] using ⟨[], Lang.starNil⟩
  | _ => simp [alive, exists_or, *]

theorem derivs_alive_iff (r : Rx) (w : List Nat) : (r.derivs w).alive = true ↔ ∃ v, Lang r (w ++ v) := by
  simp only [alive_iff, derivs_iff]

/-- After `w`, no member of the language is reachable iff the derivative is dead: the first byte
    at which a compiled matcher may report a mismatch. -/
theorem dead_iff_no_extension (r : Rx) (w : List Nat) :
    (r.derivs w).alive = false ↔ ¬ ∃ v, Lang r (w ++ v) := by
  rw [← Bool.not_eq_true, derivs_alive_iff]

end Nmfu.Rx
