/-
  The store of the runtime model, one buffer at a time, with no invariant assumed.

  `σ.updStr i f` is `σ` with the pure function `f` applied to buffer `i`; the store operations of
  `Rt.lean` are such updates (`onDemandAlloc_updStr`, `writeByte_updStr`, `setCounter_updStr`), and
  an event leaves every buffer but the one it writes as it is (`apply_str_ne`).  C03 adds the
  invariant under which whole events are updates of one buffer; C04 needs the frame property only.
-/
import NmfuModel.Rt
namespace Nmfu

theorem getD_setIfInBounds {α : Type _} (a : Array α) (i j : Nat) (v d : α) :
    (a.setIfInBounds i v).getD j d = if j = i ∧ i < a.size then v else a.getD j d := by
  simp only [Array.getD_eq_getD_getElem?, Array.getElem?_setIfInBounds]
  by_cases h : i = j
  · subst h; by_cases h2 : i < a.size <;> simp [h2]
  · simp [h, Ne.symm h]

theorem getD_setIfInBounds_ne {α : Type _} (a : Array α) {i j : Nat} (h : i ≠ j) (v d : α) :
    (a.setIfInBounds i v).getD j d = a.getD j d := by
  rw [getD_setIfInBounds, if_neg (fun e => h e.1.symm)]

theorem foldl_setIfInBounds_size {α : Type} (vals : Nat → α) (ks : List Nat) (a : Array α) :
    (ks.foldl (fun a k => a.setIfInBounds k (vals k)) a).size = a.size :=
  List.foldlRecOn ks _ (motive := fun a' => Array.size a' = a.size) rfl
    fun _ h _ _ => Array.size_setIfInBounds.trans h

theorem getD_foldl_range {α : Type} (g : Nat → α) (d : α) :
    ∀ (n : Nat) (a : Array α) (j : Nat), j < n → n ≤ a.size →
      ((List.range n).foldl (fun a k => a.setIfInBounds k (g k)) a).getD j d = g j := by
  intro n
  induction n with
  | zero => intro a j hj; omega
  | succ n ih =>
    intro a j hj hn
    rw [List.range_succ, List.foldl_append, List.foldl_cons, List.foldl_nil, getD_setIfInBounds,
      foldl_setIfInBounds_size]
    by_cases hjn : j = n
    · rw [if_pos ⟨hjn, by omega⟩, hjn]
    · rw [if_neg (fun h => hjn h.1)]
      exact ih a j (by omega) (by omega)

theorem str_setStr (σ : CState) (i j : Nat) (b : StrBuf) :
    (σ.setStr i b).str j = if j = i ∧ i < σ.strs.size then b else σ.str j :=
  getD_setIfInBounds σ.strs i j b default

theorem str_setStr_ne (σ : CState) (i : Nat) (b : StrBuf) {j : Nat} (h : j ≠ i) :
    (σ.setStr i b).str j = σ.str j := by
  rw [str_setStr, if_neg (fun e => h e.1)]

theorem memFault_setStr (σ : CState) (i : Nat) (b : StrBuf) :
    (σ.setStr i b).memFault = σ.memFault := rfl

theorem str_default_of_ge (σ : CState) (i : Nat) (h : ¬ i < σ.strs.size) : σ.str i = default := by
  simp [CState.str, Array.getD_eq_getD_getElem?, Array.getElem?_eq_none (by omega : σ.strs.size ≤ i)]

theorem addFault_str (σ : CState) (m : String) (j : Nat) : (σ.addFault m).str j = σ.str j := by
  simp only [CState.addFault]; split <;> rfl

theorem addFault_memFault (σ : CState) (m : String) : (σ.addFault m).memFault = σ.memFault := by
  simp only [CState.addFault]; split <;> rfl

theorem addFault_state (σ : CState) (m : String) : (σ.addFault m).state = σ.state := by
  unfold CState.addFault; split <;> rfl

theorem addMemFault_str (σ : CState) (m : String) (j : Nat) : (σ.addMemFault m).str j = σ.str j :=
  addFault_str σ m j

/-- `σ` with `f` applied to buffer `i`: the form every buffer event gives the store (here for the single
    operations, in C03 for whole events) -/
def CState.updStr (σ : CState) (i : Nat) (f : StrBuf → StrBuf) : CState := σ.setStr i (f (σ.str i))

theorem updStr_of_ge (σ : CState) (i : Nat) (f : StrBuf → StrBuf) (h : ¬ i < σ.strs.size) :
    σ.updStr i f = σ := by
  unfold CState.updStr CState.setStr
  rw [Array.setIfInBounds_eq_of_size_le (Nat.le_of_not_lt h)]

theorem str_updStr (σ : CState) (i j : Nat) (f : StrBuf → StrBuf) :
    (σ.updStr i f).str j = if j = i ∧ i < σ.strs.size then f (σ.str i) else σ.str j :=
  str_setStr σ i j _

theorem str_updStr_self (σ : CState) (i : Nat) (f : StrBuf → StrBuf) (hi : i < σ.strs.size) :
    (σ.updStr i f).str i = f (σ.str i) := by
  rw [str_updStr, if_pos ⟨rfl, hi⟩]

/-- an update looks at its function only at the buffer it updates -/
theorem updStr_congr (σ : CState) (i : Nat) {f g : StrBuf → StrBuf} (h : f (σ.str i) = g (σ.str i)) :
    σ.updStr i f = σ.updStr i g := by
  rw [CState.updStr, CState.updStr, h]

theorem updStr_updStr (σ : CState) (i : Nat) (f g : StrBuf → StrBuf) :
    (σ.updStr i f).updStr i g = σ.updStr i (fun b => g (f b)) := by
  by_cases hi : i < σ.strs.size
  · have := str_updStr_self σ i f hi
    simp only [CState.updStr] at this ⊢
    rw [this]
    simp [CState.setStr]
  · rw [updStr_of_ge σ i f hi, updStr_of_ge σ i g hi, updStr_of_ge σ i _ hi]

theorem updStr_id (σ : CState) (i : Nat) : σ.updStr i (fun b => b) = σ := by
  by_cases hi : i < σ.strs.size
  · unfold CState.updStr CState.setStr CState.str
    rw [Array.setIfInBounds_def, dif_pos hi, ← Array.getElem_eq_getD (h := hi) default, Array.set_getElem_self]
  · exact updStr_of_ge σ i _ hi

/-! ### Pure buffer operations -/

def allocB (c : RtCtx) (i : Nat) (b : StrBuf) : StrBuf :=
  if c.realloc i && b.alloc == .null then
    { b with alloc := .heap, bytes := Array.replicate (c.ty i).size none }
  else b

def writeB (k v : Nat) (b : StrBuf) : StrBuf := { b with bytes := b.bytes.setIfInBounds k (some (v % 256)) }

def counterB (n : Nat) (b : StrBuf) : StrBuf := { b with counter := n }

def storeB (nt : Bool) (v : Nat) (b : StrBuf) : StrBuf :=
  let b2 := counterB (b.counter + 1) (writeB b.counter v b)
  if nt then writeB (b.counter + 1) 0 b2 else b2

def fillB (vals : Nat → Nat) (ks : List Nat) (b : StrBuf) : StrBuf :=
  { b with bytes := ks.foldl (fun a k => a.setIfInBounds k (some (vals k % 256))) b.bytes }

/-- what a string assignment does to a buffer that exists: the bytes, the terminator, the counter -/
def setB (nt : Bool) (bs : List Nat) (b : StrBuf) : StrBuf :=
  let b1 := fillB (fun k => bs.getD k 0) (List.range bs.length) b
  counterB bs.length (if nt then writeB bs.length 0 b1 else b1)

def deleteB (c : RtCtx) (isStart : Bool) (i : Nat) (b : StrBuf) : StrBuf :=
  if c.ro.onDemand && c.ro.deleteFrees && !isStart && c.isDyn i then { b with alloc := .null, bytes := #[], counter := 0 }
  else counterB 0 (if (c.ty i).nullTerm && !(c.ro.onDemand && c.isDyn i && b.alloc == .null) then writeB 0 0 b else b)

theorem writeB_size (k v : Nat) (b : StrBuf) : (writeB k v b).bytes.size = b.bytes.size :=
  Array.size_setIfInBounds

theorem fillB_size (vals : Nat → Nat) (ks : List Nat) (b : StrBuf) : (fillB vals ks b).bytes.size = b.bytes.size :=
  foldl_setIfInBounds_size _ _ _

theorem storeB_size (nt : Bool) (v : Nat) (b : StrBuf) : (storeB nt v b).bytes.size = b.bytes.size := by
  cases nt
  · exact writeB_size ..
  · exact (writeB_size ..).trans (writeB_size ..)

theorem setB_size (nt : Bool) (bs : List Nat) (b : StrBuf) : (setB nt bs b).bytes.size = b.bytes.size := by
  cases nt
  · exact fillB_size ..
  · exact (writeB_size ..).trans (fillB_size ..)

/-! ### What the model's store operations do to buffer `i` -/

theorem onDemandAlloc_updStr (c : RtCtx) (σ : CState) (i : Nat) :
    c.onDemandAlloc σ i = σ.updStr i (allocB c i) := by
  -- where the guard does nothing, the buffer is set to itself
  simp only [RtCtx.onDemandAlloc, CState.updStr, allocB, apply_ite (σ.setStr i), Bool.and_eq_true,
    show σ.setStr i (σ.str i) = σ from updStr_id σ i]
  by_cases h1 : c.realloc i = true <;> simp [h1]

theorem writeByte_updStr (c : RtCtx) (σ : CState) (i k v : Nat)
    (hw : (σ.str i).writable = true) (hk : k < (σ.str i).bytes.size) :
    c.writeByte σ i k v = σ.updStr i (writeB k v) := by
  have hk' : ¬ (k ≥ (σ.str i).bytes.size) := by omega
  simp only [RtCtx.writeByte, hw, Bool.not_true, Bool.false_eq_true, if_false, hk', CState.updStr, writeB]

theorem setCounter_updStr (σ : CState) (i n : Nat) :
    σ.setStr i { σ.str i with counter := n } = σ.updStr i (counterB n) := rfl

/-- The store-one-byte sequence shared by the two append templates: the byte at the counter, the
    counter, the terminator. -/
def RtCtx.storeByte (c : RtCtx) (σ : CState) (i v : Nat) : CState :=
  let b := σ.str i
  let σ := c.writeByte σ i b.counter v
  let σ := σ.setStr i { σ.str i with counter := b.counter + 1 }
  if (c.ty i).nullTerm then c.writeByte σ i (b.counter + 1) 0 else σ

theorem apply_append (c : RtCtx) (σ : CState) (isStart : Bool) (i : Nat) (byte : Option Nat) :
    c.apply σ isStart (.append i byte) = c.storeByte (c.onDemandAlloc σ i) i (byte.getD 0) := rfl

theorem apply_appendC (c : RtCtx) (σ : CState) (isStart : Bool) (i : Nat) (e : IExpr) :
    c.apply σ isStart (.appendC i e) =
      match eval (c.env (c.onDemandAlloc σ i) 0) e with
      | none => (c.onDemandAlloc σ i).addFault "undefined behaviour in expression"
      | some v => c.storeByte (c.onDemandAlloc σ i) i (CTy.u8.wrap v.v).toNat := rfl

/-! ### An event leaves every buffer but its own as it is -/

theorem str_ite {p : Prop} [Decidable p] {τ τ' : CState} {j : Nat} {b : StrBuf}
    (h : τ.str j = b) (h' : τ'.str j = b) : (if p then τ else τ').str j = b := by
  split
  · exact h
  · exact h'

theorem writeByte_str_ne (c : RtCtx) (σ : CState) (i k v : Nat) {j : Nat} (h : j ≠ i) :
    (c.writeByte σ i k v).str j = σ.str j :=
  -- the two faults, the write
  str_ite (addMemFault_str ..) (str_ite (addMemFault_str ..) (str_setStr_ne _ i _ h))

theorem onDemandAlloc_str_ne (c : RtCtx) (σ : CState) (i : Nat) {j : Nat} (h : j ≠ i) :
    (c.onDemandAlloc σ i).str j = σ.str j := by
  rw [onDemandAlloc_updStr]; exact str_setStr_ne σ i _ h

theorem storeByte_str_ne (c : RtCtx) (σ : CState) (i v : Nat) {j : Nat} (h : j ≠ i) :
    (c.storeByte σ i v).str j = σ.str j := by
  unfold RtCtx.storeByte
  rw [str_ite (writeByte_str_ne c _ i _ _ h) rfl, str_setStr_ne _ i _ h, writeByte_str_ne c _ i _ _ h]

theorem foldl_write_str_ne (c : RtCtx) (i : Nat) (val : Nat → Nat) {j : Nat} (h : j ≠ i) :
    ∀ (ks : List Nat) (σ : CState), (ks.foldl (fun σ k => c.writeByte σ i k (val k)) σ).str j = σ.str j :=
  fun ks σ => List.foldlRecOn ks _ (motive := fun σ' => σ'.str j = σ.str j) rfl
    fun σ' h' k _ => (writeByte_str_ne c σ' i k _ h).trans h'

/-- The buffer an event writes (`set` writes a scalar, `hook` the log). -/
def AEv.buf : AEv → Option Nat
  | .append i _ => some i
  | .appendC i _ => some i
  | .delete i => some i
  | .setStr i _ => some i
  | _ => none

theorem apply_str_ne (c : RtCtx) (σ : CState) (isStart : Bool) (a : AEv) {j : Nat} (h : a.buf ≠ some j) :
    (c.apply σ isStart a).str j = σ.str j := by
  have hj {i : Nat} (e : a.buf = some i) : j ≠ i := fun he => h (he ▸ e)
  cases a with
  | append i byte =>
    rw [apply_append, storeByte_str_ne c _ i _ (hj rfl), onDemandAlloc_str_ne c σ i (hj rfl)]
  | appendC i e =>
    rw [apply_appendC]
    split
    · rw [addFault_str, onDemandAlloc_str_ne c σ i (hj rfl)]
    · rw [storeByte_str_ne c _ i _ (hj rfl), onDemandAlloc_str_ne c σ i (hj rfl)]
  | setStr i bs =>
    simp only [RtCtx.apply, RtCtx.setStrAlloc]
    rw [str_setStr_ne _ i _ (hj rfl), str_ite (writeByte_str_ne c _ i _ _ (hj rfl)) rfl,
      foldl_write_str_ne c i _ (hj rfl), onDemandAlloc_str_ne c σ i (hj rfl)]
  | delete i =>
    -- freeing or zeroing, either way an optional step and then buffer `i` set (`split` is slow here)
    exact str_ite ((str_setStr_ne _ i _ (hj rfl)).trans (str_ite (addMemFault_str ..) rfl))
      ((str_setStr_ne _ i _ (hj rfl)).trans (str_ite (writeByte_str_ne c _ i _ _ (hj rfl)) rfl))
  | set i e =>
    simp only [RtCtx.apply]
    split
    · exact addFault_str ..
    · rfl
  | _ => rfl

theorem asked_str (c : RtCtx) (isStart : Bool) (σ : CState) (q : Quest) (v : Bool) (j : Nat) :
    (c.applyEv isStart σ (.asked q v)).str j = σ.str j := by
  cases q with
  | full i => rfl
  | cond e =>
    simp only [RtCtx.applyEv]
    split
    · exact addFault_str ..
    · rfl

end Nmfu
