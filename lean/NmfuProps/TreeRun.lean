/-
  Equations of `Tree.run`, and the leaf a run reaches is the leaf of one of the tree's paths: what
  lets a Boolean check over `Tree.paths` speak about every run.
-/
import NmfuModel.Tree
namespace Nmfu

variable {A Q L : Type}

@[simp] theorem run_emit (ω : Oracle A Q) (a : A) (k : Tree A Q L) (h : List (Ev A Q)) :
    (Tree.emit a k).run ω h =
      (.act a :: (k.run ω (h ++ [.act a])).1, (k.run ω (h ++ [.act a])).2) := rfl

theorem run_ask (ω : Oracle A Q) (q : Q) (kt kf : Tree A Q L) (h : List (Ev A Q)) (v : Bool)
    (hv : ω h q = v) :
    (Tree.ask q kt kf).run ω h =
      (.asked q v :: ((if v then kt else kf).run ω (h ++ [.asked q v])).1,
        ((if v then kt else kf).run ω (h ++ [.asked q v])).2) := by
  cases v <;> simp [Tree.run, hv]

@[simp] theorem run_leaf (ω : Oracle A Q) (l : L) (h : List (Ev A Q)) :
    (Tree.leaf l : Tree A Q L).run ω h = ([], l) := rfl

theorem run_mem_paths (ω : Oracle A Q) (t : Tree A Q L) (h : List (Ev A Q)) :
    t.run ω h ∈ t.paths := by
  induction t generalizing h with
  | emit a k ih => exact List.mem_map_of_mem (ih _)
  | ask q kt kf iht ihf =>
    rw [run_ask ω q kt kf h _ rfl]
    cases ω h q with
    | true => exact List.mem_append_left _ (List.mem_map_of_mem (iht _))
    | false => exact List.mem_append_right _ (List.mem_map_of_mem (ihf _))
  | leaf l => exact List.mem_singleton_self _

end Nmfu
